/-
L0 — little-endian byte codecs shared by the ISA, the .nvm container and the wire protocols.
Core Lean only (this file is imported by the compiled driver).
-/
namespace NanoVerif

abbrev Bytes := List UInt8

/-- `n` little-endian bytes of `v` (what `write_u16/u32/i64` and `le_write_*` produce: value
    truncated to the width). -/
def leBytes : Nat → Nat → Bytes
  | 0, _ => []
  | n+1, v => UInt8.ofNat (v % 256) :: leBytes n (v / 256)

/-- value of a little-endian byte string (what `read_u16/u32/i64` compute). -/
def leVal : Bytes → Nat
  | [] => 0
  | b :: bs => b.toNat + 256 * leVal bs

@[simp] theorem leBytes_length (n v : Nat) : (leBytes n v).length = n := by
  induction n generalizing v with
  | zero => rfl
  | succ n ih => simp [leBytes, ih]

theorem leVal_lt (bs : Bytes) : leVal bs < 256 ^ bs.length := by
  induction bs with
  | nil => simp [leVal]
  | cons b bs ih =>
    simp only [leVal, List.length_cons, Nat.pow_succ]
    have := UInt8.toNat_lt b
    omega

theorem leVal_leBytes (n v : Nat) : leVal (leBytes n v) = v % 256 ^ n := by
  induction n generalizing v with
  | zero => simp [leBytes, leVal, Nat.mod_one]
  | succ n ih =>
    simp only [leBytes, leVal, ih]
    have h1 : (UInt8.ofNat (v % 256)).toNat = v % 256 := by
      simp [UInt8.toNat_ofNat']
    rw [h1, Nat.pow_succ, Nat.mul_comm (256 ^ n) 256, Nat.mod_mul]

theorem leVal_leBytes_of_lt (n v : Nat) (h : v < 256 ^ n) : leVal (leBytes n v) = v := by
  rw [leVal_leBytes, Nat.mod_eq_of_lt h]

theorem leBytes_leVal (bs : Bytes) : leBytes bs.length (leVal bs) = bs := by
  induction bs with
  | nil => rfl
  | cons b bs ih =>
    simp only [List.length_cons, leBytes, leVal]
    have hb := UInt8.toNat_lt b
    have h1 : (b.toNat + 256 * leVal bs) % 256 = b.toNat := by omega
    have h2 : (b.toNat + 256 * leVal bs) / 256 = leVal bs := by omega
    rw [h1, h2, ih]
    simp

theorem leBytes_mod (n v : Nat) : leBytes n (v % 256 ^ n) = leBytes n v := by
  simpa [leVal_leBytes] using leBytes_leVal (leBytes n v)

/-- checked read of `n` bytes at offset `off` (none = the C code would read out of the buffer) -/
def slice? (bs : Bytes) (off n : Nat) : Option Bytes :=
  if off + n ≤ bs.length then some ((bs.drop off).take n) else none

theorem slice?_length {bs : Bytes} {off n : Nat} {r : Bytes} (h : slice? bs off n = some r) :
    r.length = n := by
  unfold slice? at h
  split at h
  · cases h; simp; omega
  · cases h

def hexDigit (n : Nat) : Char :=
  if n < 10 then Char.ofNat (48 + n) else Char.ofNat (87 + n)

def toHex (bs : Bytes) : String :=
  String.ofList (bs.flatMap fun b => [hexDigit (b.toNat / 16), hexDigit (b.toNat % 16)])

def hexVal (c : Char) : Option Nat :=
  if '0' ≤ c ∧ c ≤ '9' then some (c.toNat - 48)
  else if 'a' ≤ c ∧ c ≤ 'f' then some (c.toNat - 87)
  else if 'A' ≤ c ∧ c ≤ 'F' then some (c.toNat - 55)
  else none

def ofHexChars : List Char → Option Bytes
  | [] => some []
  | [_] => none
  | a :: b :: rest => do
    let x ← hexVal a
    let y ← hexVal b
    let r ← ofHexChars rest
    pure (UInt8.ofNat (x * 16 + y) :: r)

/-- "-" denotes the empty byte string in the line protocol -/
def ofHex (s : String) : Option Bytes :=
  if s = "-" then some [] else ofHexChars s.toList

end NanoVerif
