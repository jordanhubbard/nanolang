import NanoVerif.Lemmas.NvmSer
namespace NanoVerif

theorem slice?_append {f : Bytes} (t : Bytes) {off n : Nat} {r : Bytes}
    (h : slice? f off n = some r) : slice? (f ++ t) off n = some r := by
  unfold slice? at *
  split at h <;> cases h
  rw [if_pos (by simp; omega), List.drop_append_of_le_length (by omega),
    List.take_append_of_le_length (by simp; omega)]

/-- whenever `x` succeeds, `y` succeeds with the same value -/
def OkLe {ε α : Type} (x y : Except ε α) : Prop := ∀ a, x = .ok a → y = .ok a

namespace OkLe
variable {ε α β : Type}

theorem refl (x : Except ε α) : OkLe x x := fun _ h => h

theorem bind {x y : Except ε α} {f g : α → Except ε β} (hx : OkLe x y) (hf : ∀ a, OkLe (f a) (g a)) :
    OkLe (x >>= f) (y >>= g) := by
  intro b h
  cases x with
  | error e => cases h
  | ok a => rw [hx a rfl]; exact hf a b h

theorem map (g : α → β) {x y : Except ε α} (h : OkLe x y) : OkLe (g <$> x) (g <$> y) := by
  intro b hb
  cases x with
  | error e => cases hb
  | ok a => rw [h a rfl]; exact hb

theorem ite {c : Prop} [Decidable c] {x x' y y' : Except ε α} (h1 : OkLe x y) (h2 : OkLe x' y') :
    OkLe (if c then x else x') (if c then y else y') := by
  split
  · exact h1
  · exact h2

/-- a guard that fails less often -/
theorem guard {c c' : Prop} [Decidable c] [Decidable c'] {e : ε} {x y z : Except ε α} (hc : ¬ c → ¬ c')
    (h : OkLe x y) : OkLe (if c then .error e else x) (if c' then z else y) := by
  intro a ha
  split at ha
  · cases ha
  · rename_i hn; rw [if_neg (hc hn)]; exact h a ha

end OkLe

section append
variable {f t : Bytes} {base secSize fuel pos off n : Nat}

theorem rdBytes_append : OkLe (rdBytes f off n) (rdBytes (f ++ t) off n) := by
  intro v h
  unfold rdBytes at *
  split at h
  · rw [slice?_append _ ‹_›]; exact h
  · cases h

theorem rd_append : OkLe (rd f off n) (rd (f ++ t) off n) := by
  rw [rd_eq, rd_eq]; exact rdBytes_append.map _

theorem parseStrings_append {ss : List Bytes} :
    OkLe (parseStrings f base secSize fuel pos ss) (parseStrings (f ++ t) base secSize fuel pos ss) := by
  induction fuel generalizing pos ss with
  | zero => exact .refl _
  | succ fuel ih =>
    simp only [parseStrings]
    exact .ite (.bind rd_append fun _ => .ite (.refl _) (.bind rdBytes_append fun _ => ih)) (.refl _)

theorem parseFunctions_append {fs : List FnEntry} :
    OkLe (parseFunctions f base secSize fuel pos fs) (parseFunctions (f ++ t) base secSize fuel pos fs) := by
  induction fuel generalizing pos fs with
  | zero => exact .refl _
  | succ fuel ih =>
    simp only [parseFunctions]
    exact .ite (.bind rd_append fun _ => .bind rd_append fun _ => .bind rd_append fun _ =>
      .bind rd_append fun _ => .bind rd_append fun _ => .bind rd_append fun _ => ih) (.refl _)

theorem parseDebug_append {ds : List DebugEntry} :
    OkLe (parseDebug f base secSize fuel pos ds) (parseDebug (f ++ t) base secSize fuel pos ds) := by
  induction fuel generalizing pos ds with
  | zero => exact .refl _
  | succ fuel ih =>
    simp only [parseDebug]
    exact .ite (.bind rd_append fun _ => .bind rd_append fun _ => ih) (.refl _)

theorem parseImports_append {is : List ImportEntry} :
    OkLe (parseImports f base secSize fuel pos is) (parseImports (f ++ t) base secSize fuel pos is) := by
  induction fuel generalizing pos is with
  | zero => exact .refl _
  | succ fuel ih =>
    simp only [parseImports]
    exact .ite (.bind rd_append fun _ => .bind rd_append fun _ => .bind rd_append fun _ =>
      .bind rd_append fun _ => .ite (.refl _) (.bind rdBytes_append fun _ => ih)) (.refl _)

theorem loadSection_append {m : Module} {e i : Nat} :
    OkLe (loadSection f m e i) (loadSection (f ++ t) m e i) := by
  unfold loadSection
  refine .bind rd_append fun ty => .bind rd_append fun off => .bind rd_append fun sz => .guard ?_ ?_
  · simp only [Bool.or_eq_true, decide_eq_true_eq, List.length_append]; omega
  · exact .ite (.bind parseStrings_append fun _ => .refl _) <|
      .ite (.bind rdBytes_append fun _ => .refl _) <|
      .ite (.bind parseFunctions_append fun _ => .refl _) <|
      .ite (.bind parseDebug_append fun _ => .refl _) <|
      .ite (.bind parseImports_append fun _ => .refl _) (.refl _)

theorem loadSections_append (f t : Bytes) (n i : Nat) (m : Module) (e : Nat) :
    OkLe (loadSections f n i m e) (loadSections (f ++ t) n i m e) := by
  induction n generalizing i m e with
  | zero => exact .refl _
  | succ n ih =>
    simp only [loadSections]
    exact .bind loadSection_append fun _ => ih _ _ _

end append

/-- the checks `nvm_deserialize` makes before it walks the section directory -/
structure HeaderOk (data : Bytes) : Prop where
  size : Gen.headerSize ≤ data.length
  header : headerValid data = true
  crc : (crc32 (data.drop Gen.headerSize)).toNat = leVal ((data.drop Gen.checksumOffset).take 4)
  dir : Gen.headerSize + leVal ((data.drop 16).take 4) * Gen.sectionEntrySize ≤ data.length

theorem deserialize_of_headerOk {data : Bytes} (h : HeaderOk data) : deserialize data =
    loadSections data (leVal ((data.drop 16).take 4)) 0
      { flags := leVal ((data.drop 8).take 4), entryPoint := leVal ((data.drop 12).take 4) }
      (Gen.headerSize + leVal ((data.drop 16).take 4) * Gen.sectionEntrySize) >>= fun r =>
    if r.2 != data.length then .error .reject else .ok r.1 := by
  unfold deserialize
  have := h.size
  have := h.dir
  simp only
  rw [if_neg (by omega), h.header, if_neg (by simp), h.crc, if_neg (by simp), if_neg (by omega)]
  cases loadSections data _ _ _ _ <;> rfl

theorem deserialize_of_not_headerOk {data : Bytes} (h : ¬ HeaderOk data) : deserialize data = .error .reject := by
  unfold deserialize
  exact ite_eq_left_iff.mpr fun h1 => ite_eq_left_iff.mpr fun h2 => ite_eq_left_iff.mpr fun h3 =>
    ite_eq_left_iff.mpr fun h4 => absurd ⟨by omega, by simpa using h2, by simpa using h3, by omega⟩ h

theorem header_field_append (p x : Bytes) {k : Nat} (hk : k + 4 ≤ Gen.headerSize) (hp : Gen.headerSize ≤ p.length) :
    ((p ++ x).drop k).take 4 = (p.drop k).take 4 := by
  rw [List.drop_append_of_le_length (by omega), List.take_append_of_le_length (by simp; omega)]

theorem HeaderOk.crc_append {p x : Bytes} (hp : p.length = Gen.headerSize) (h : HeaderOk (p ++ x)) :
    (crc32 x).toNat = leVal ((p.drop Gen.checksumOffset).take 4) := by
  have := h.crc
  rwa [List.drop_left' hp, header_field_append p x (by decide) (Nat.le_of_eq hp.symm)] at this

/-- what a successful `deserialize` establishes -/
structure Accepted (data : Bytes) (m : Module) : Prop where
  size : Gen.headerSize ≤ data.length
  header : headerValid data = true
  crc : (crc32 (data.drop Gen.headerSize)).toNat = leVal ((data.drop Gen.checksumOffset).take 4)
  dir : Gen.headerSize + leVal ((data.drop 16).take 4) * Gen.sectionEntrySize ≤ data.length
  sections : loadSections data (leVal ((data.drop 16).take 4)) 0
      { flags := leVal ((data.drop 8).take 4), entryPoint := leVal ((data.drop 12).take 4) }
      (Gen.headerSize + leVal ((data.drop 16).take 4) * Gen.sectionEntrySize) = .ok (m, data.length)

theorem Accepted.headerOk {data : Bytes} {m : Module} (h : Accepted data m) : HeaderOk data :=
  ⟨h.size, h.header, h.crc, h.dir⟩

theorem deserialize_eq_ok_iff {data : Bytes} {m : Module} : deserialize data = .ok m ↔ Accepted data m := by
  constructor
  · intro h
    by_cases hh : HeaderOk data
    · rw [deserialize_of_headerOk hh] at h
      refine ⟨hh.size, hh.header, hh.crc, hh.dir, ?_⟩
      generalize loadSections data _ _ _ _ = r at h ⊢
      -- for `r = .error _` the hypothesis `h` is absurd, and Lean discharges that arm itself
      match r, h with
      | .ok (m', e), h =>
        change (if (e != data.length) = true then _ else _) = _ at h
        split at h
        · cases h
        · cases h
          rw [show e = data.length by simpa using ‹¬ (e != data.length) = true›]
    · rw [deserialize_of_not_headerOk hh] at h; cases h
  · intro ⟨h1, h2, h3, h4, h5⟩
    rw [deserialize_of_headerOk ⟨h1, h2, h3, h4⟩, h5]
    simp [bind, Except.bind]

end NanoVerif
