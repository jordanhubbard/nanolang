/-
The checker `Tc` read backwards: what an accepted expression or statement of each form tells about its parts.
-/
import NanoVerif.Model.Tc

namespace NanoVerif.Tc
open NanoVerif Gen

theorem eq_of_tyEq {a b : Ty} (h : tyEq a b = true) : a = b := by
  fun_induction tyEq a b with
  | case7 a b ih => rw [ih h]          -- `arr`
  | case8 a b => rw [eq_of_beq h]     -- `named`
  | case9 => cases h                  -- different constructors
  | _ => rfl

theorem both_tyEq {ta tb x y : Ty} (h : (tyEq ta x && tyEq tb y) = true) : ta = x ∧ tb = y := by
  rw [Bool.and_eq_true] at h
  exact ⟨eq_of_tyEq h.1, eq_of_tyEq h.2⟩

theorem ite_eq_cases {α : Sort _} {c : Prop} [Decidable c] {a b x : α} (h : (if c then a else b) = x) :
    c ∧ a = x ∨ ¬c ∧ b = x := by
  by_cases hc : c
  · exact .inl ⟨hc, by rwa [if_pos hc] at h⟩
  · exact .inr ⟨hc, by rwa [if_neg hc] at h⟩

theorem findVar_some {sc g : List Binding} {x : String} {b : Binding} (h : findVar sc g x = some b) :
    sc.find? (·.name == x) = some b ∨ (sc.find? (·.name == x) = none ∧ g.find? (·.name == x) = some b) := by
  unfold findVar at h
  split at h
  · exact .inl (by rwa [‹sc.find? _ = _›])
  · exact .inr ⟨‹_›, h⟩

variable {env : Env} {sc : Scope} {τ : Ty}

theorem tcExpr_ident {x : String} (h : tcExpr env sc (.ident x) = some τ) :
    ∃ b, findVar sc env.globals x = some b ∧ b.ty = τ := by
  rw [tcExpr] at h
  exact Option.map_eq_some_iff.mp h

theorem tcExpr_un {op : TT} {a : Expr} (h : tcExpr env sc (.prefixOp op [a]) = some τ) :
    (op = .T_MINUS ∧ tcExpr env sc a = some .int ∧ τ = .int) ∨ (op = .T_NOT ∧ tcExpr env sc a = some .bool ∧ τ = .bool) := by
  rw [tcExpr] at h
  split at h
  · split at h <;> cases h
    exact .inl ⟨eq_of_beq ‹_›, ‹_›, rfl⟩
  · split at h <;> cases h
    exact .inr ⟨eq_of_beq ‹_›, ‹_›, rfl⟩
  · cases h

theorem tcArgs_nil {ps : List Ty} (h : tcArgs env sc [] ps = true) : ps = [] := by
  cases ps with
  | nil => rfl
  | cons => simp [tcArgs] at h

theorem tcArgs_cons {a : Expr} {r : List Expr} {ps : List Ty} (h : tcArgs env sc (a :: r) ps = true) :
    ∃ t ts ta, ps = t :: ts ∧ tcExpr env sc a = some ta ∧ tyEq ta t = true ∧ tcArgs env sc r ts = true := by
  cases ps with
  | nil => simp [tcArgs] at h
  | cons t ts =>
    rw [tcArgs, Bool.and_eq_true] at h
    split at h
    · exact ⟨t, ts, _, rfl, ‹_›, h.1, h.2⟩
    · cases h.1

/-- the table of binary operators in `tcExpr` as a relation: operator, operand types, result type -/
inductive BinRule : TT → Ty → Ty → Ty → Prop
  | add : BinRule .T_PLUS .int .int .int
  | cat : BinRule .T_PLUS .string .string .string
  | sub : BinRule .T_MINUS .int .int .int
  | mul : BinRule .T_STAR .int .int .int
  | div : BinRule .T_SLASH .int .int .int
  | mod : BinRule .T_PERCENT .int .int .int
  | eq {t : Ty} : t = .int ∨ t = .bool ∨ t = .string → BinRule .T_EQ t t .bool
  | ne {t : Ty} : t = .int ∨ t = .bool ∨ t = .string → BinRule .T_NE t t .bool
  | lt : BinRule .T_LT .int .int .bool
  | le : BinRule .T_LE .int .int .bool
  | gt : BinRule .T_GT .int .int .bool
  | ge : BinRule .T_GE .int .int .bool
  | and : BinRule .T_AND .bool .bool .bool
  | or : BinRule .T_OR .bool .bool .bool

theorem tcExpr_bin {op : TT} {a b : Expr} (h : tcExpr env sc (.prefixOp op [a, b]) = some τ) :
    ∃ ta tb, tcExpr env sc a = some ta ∧ tcExpr env sc b = some tb ∧ BinRule op ta tb τ := by
  rw [tcExpr] at h
  split at h
  case h_2 => cases h
  rename_i ta tb hta htb
  refine ⟨ta, tb, hta, htb, ?_⟩
  -- the table line by line: `ite_eq_cases` takes one `if` off `h` (a `split` of the whole chain is slow);
  -- `constructor` finds the rule for the operator.  `replace`: the old `h` must go, `cases` below would bring it
  -- back on top
  replace h := ite_eq_cases h
  obtain ⟨c, h⟩ | ⟨-, h⟩ := h
  · cases eq_of_beq c
    replace h := ite_eq_cases h
    obtain ⟨c, h⟩ | ⟨-, h⟩ := h
    · obtain ⟨rfl, rfl⟩ := both_tyEq c; cases h; exact .add
    · obtain ⟨c, h⟩ := Option.ite_none_right_eq_some.mp h
      obtain ⟨rfl, rfl⟩ := both_tyEq c; cases h; exact .cat
  replace h := ite_eq_cases h
  obtain ⟨c, h⟩ | ⟨-, h⟩ := h
  · obtain ⟨ct, h⟩ := Option.ite_none_right_eq_some.mp h
    obtain ⟨rfl, rfl⟩ := both_tyEq ct; cases h
    simp only [Bool.or_eq_true, beq_iff_eq] at c
    rcases c with ((rfl | rfl) | rfl) | rfl <;> constructor
  replace h := ite_eq_cases h
  obtain ⟨c, h⟩ | ⟨-, h⟩ := h
  · obtain ⟨ct, h⟩ := Option.ite_none_right_eq_some.mp h
    cases h
    simp only [Bool.and_eq_true, Bool.or_eq_true, beq_iff_eq, or_assoc] at c ct
    cases eq_of_tyEq ct.1
    have ht : ta = .int ∨ ta = .bool ∨ ta = .string := ct.2.imp eq_of_tyEq (.imp eq_of_tyEq eq_of_tyEq)
    rcases c with rfl | rfl <;> constructor <;> exact ht
  replace h := ite_eq_cases h
  obtain ⟨c, h⟩ | ⟨-, h⟩ := h
  · obtain ⟨ct, h⟩ := Option.ite_none_right_eq_some.mp h
    obtain ⟨rfl, rfl⟩ := both_tyEq ct; cases h
    simp only [Bool.or_eq_true, beq_iff_eq] at c
    rcases c with ((rfl | rfl) | rfl) | rfl <;> constructor
  replace h := ite_eq_cases h
  obtain ⟨c, h⟩ | ⟨-, h⟩ := h
  · obtain ⟨ct, h⟩ := Option.ite_none_right_eq_some.mp h
    obtain ⟨rfl, rfl⟩ := both_tyEq ct; cases h
    simp only [Bool.or_eq_true, beq_iff_eq] at c
    rcases c with rfl | rfl <;> constructor
  cases h

variable {ret : Ty} {l : Bool} {sc' : Scope}

theorem tcStmt_let {x : String} {m : Bool} {ty : Ty} {e : Expr} (he : e ≠ .arrayLit [])
    (h : tcStmt env ret l sc (.letS x m ty e) = some sc') :
    sc' = ⟨x, ty, m⟩ :: sc ∧ ∃ te, tcExpr env sc e = some te ∧ tyEq te ty = true := by
  -- the equation of `tcStmt` for `let` with an initialiser other than `[]` has `he` as its side condition
  rw [tcStmt] at h
  · split at h
    · obtain ⟨c, h⟩ := Option.ite_none_right_eq_some.mp h
      cases h
      exact ⟨rfl, _, ‹_›, c⟩
    · cases h
  · exact he

theorem tcStmt_set {x : String} {e : Expr} (h : tcStmt env ret l sc (.setS x e) = some sc') :
    sc' = sc ∧ ∃ b te, findVar sc env.globals x = some b ∧ tcExpr env sc e = some te ∧ b.isMut = true ∧ tyEq te b.ty = true := by
  rw [tcStmt] at h
  split at h
  · split at h <;> cases h
    rename_i b te hb hte hc
    rw [Bool.and_eq_true] at hc
    exact ⟨rfl, b, te, hb, hte, hc.1, hc.2⟩
  · cases h

theorem tcStmt_if {c : Expr} {t : List Stmt} {e : Option (List Stmt)} {b : Bool} (h : tcStmt env ret l sc (.ifS c t e b) = some sc') :
    sc' = sc ∧ tcExpr env sc c = some .bool ∧ tcBlock env ret l sc t = true ∧ tcElse env ret l sc e = true := by
  rw [tcStmt] at h
  split at h
  · split at h <;> cases h
    rename_i hc hb
    rw [Bool.and_eq_true] at hb
    exact ⟨rfl, hc, hb.1, hb.2⟩
  · cases h

theorem tcStmt_while {c : Expr} {b : List Stmt} (h : tcStmt env ret l sc (.whileS c b) = some sc') :
    sc' = sc ∧ tcExpr env sc c = some .bool ∧ tcBlock env ret true sc b = true := by
  rw [tcStmt] at h
  split at h
  · split at h <;> cases h
    exact ⟨rfl, ‹_›, ‹_›⟩
  · cases h

theorem tcStmt_for {v : String} {rg : Expr} {b : List Stmt} (h : tcStmt env ret l sc (.forS v rg b) = some sc') :
    sc' = sc ∧ ∃ t, tcExpr env sc rg = some (.arr t) ∧ tcBlock env ret true (⟨v, t, false⟩ :: sc) b = true := by
  rw [tcStmt] at h
  split at h
  · split at h <;> cases h
    exact ⟨rfl, _, ‹_›, ‹_›⟩
  · cases h

theorem tcStmt_ret_none (h : tcStmt env ret l sc (.ret none) = some sc') : sc' = sc ∧ tyEq ret .void = true := by
  rw [tcStmt] at h
  split at h <;> cases h
  exact ⟨rfl, ‹_›⟩

theorem tcStmt_ret_some {e : Expr} (h : tcStmt env ret l sc (.ret (some e)) = some sc') :
    sc' = sc ∧ ∃ te, tcExpr env sc e = some te ∧ tyEq te ret = true := by
  rw [tcStmt] at h
  split at h
  · split at h <;> cases h
    exact ⟨rfl, _, ‹_›, ‹_›⟩
  · cases h

theorem tcStmt_break (h : tcStmt env ret l sc .breakS = some sc') : sc' = sc ∧ l = true := by
  rw [tcStmt] at h
  split at h <;> cases h
  exact ⟨rfl, ‹_›⟩

theorem tcStmt_continue (h : tcStmt env ret l sc .continueS = some sc') : sc' = sc ∧ l = true := by
  rw [tcStmt] at h
  split at h <;> cases h
  exact ⟨rfl, ‹_›⟩

theorem tcStmt_print {ln : Bool} {e : Expr} (h : tcStmt env ret l sc (.printS ln e) = some sc') :
    sc' = sc ∧ ∃ te, tcExpr env sc e = some te := by
  rw [tcStmt] at h
  obtain ⟨te, hte, rfl⟩ := Option.map_eq_some_iff.mp h
  exact ⟨rfl, te, hte⟩

theorem tcStmt_expr {e : Expr} (h : tcStmt env ret l sc (.exprS e) = some sc') :
    sc' = sc ∧ ∃ te, tcExpr env sc e = some te := by
  rw [tcStmt] at h
  obtain ⟨te, hte, rfl⟩ := Option.map_eq_some_iff.mp h
  exact ⟨rfl, te, hte⟩

theorem tcStmt_assert {e : Expr} (h : tcStmt env ret l sc (.assertS e) = some sc') :
    sc' = sc ∧ tcExpr env sc e = some .bool := by
  rw [tcStmt] at h
  split at h <;> cases h
  exact ⟨rfl, ‹_›⟩

theorem tcStmt_block {ss : List Stmt} (h : tcStmt env ret l sc (.block ss) = some sc') :
    sc' = sc ∧ tcBlock env ret l sc ss = true := by
  rw [tcStmt] at h
  split at h <;> cases h
  exact ⟨rfl, ‹_›⟩

theorem tcStmt_ext {s : Stmt} (h : tcStmt env ret l sc s = some sc') : sc' = sc ∨ ∃ b, sc' = b :: sc := by
  cases s with
  | letS x m ty e =>
    -- any initialiser, `[]` too (so not `tcStmt_let`); `unfold` leaves the test `ok` as it is, whatever `e`
    unfold tcStmt at h
    obtain ⟨-, h⟩ := Option.ite_none_right_eq_some.mp h
    cases h; exact .inr ⟨_, rfl⟩
  | setS => exact .inl (tcStmt_set h).1
  | ifS => exact .inl (tcStmt_if h).1
  | whileS => exact .inl (tcStmt_while h).1
  | forS => exact .inl (tcStmt_for h).1
  | ret oe => cases oe with
    | none => exact .inl (tcStmt_ret_none h).1
    | some e => exact .inl (tcStmt_ret_some h).1
  | breakS => exact .inl (tcStmt_break h).1
  | continueS => exact .inl (tcStmt_continue h).1
  | printS => exact .inl (tcStmt_print h).1
  | assertS => exact .inl (tcStmt_assert h).1
  | exprS => exact .inl (tcStmt_expr h).1
  | block => exact .inl (tcStmt_block h).1

theorem tcBlock_cons {s : Stmt} {r : List Stmt} (h : tcBlock env ret l sc (s :: r) = true) :
    ∃ sc1, tcStmt env ret l sc s = some sc1 ∧ tcBlock env ret l sc1 r = true := by
  rw [tcBlock] at h
  split at h
  · exact ⟨_, ‹_›, h⟩
  · cases h

end NanoVerif.Tc
