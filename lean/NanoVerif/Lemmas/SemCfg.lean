/-
The eight evaluators of the reference semantics related, construct by construct, under two configurations and two
fuel levels at once (`AgAll`): native against VM configuration (`agAll`), fuel n against n + 1 (`fuelAll`).
-/
import NanoVerif.Model.Sem
import NanoVerif.Lemmas.SemArith

namespace NanoVerif.Sem
open NanoVerif Gen

/-- the first outcome equals the second, or the first run stopped with the fault `fl` -/
def Ag {α : Type} (fl : Fault) (a b : Except (Fault × GState) α) : Prop := a = b ∨ ∃ g, a = .error (fl, g)

theorem Ag.rfl {α : Type} {fl : Fault} {a : Except (Fault × GState) α} : Ag fl a a := .inl _root_.rfl

theorem Ag.fault {α : Type} {fl : Fault} {g : GState} {b : Except (Fault × GState) α} : Ag fl (.error (fl, g)) b :=
  .inr ⟨g, _root_.rfl⟩

@[elab_as_elim]
theorem Ag.elim {α : Type} {fl : Fault} {a b : Except (Fault × GState) α} {motive : Except (Fault × GState) α → Prop}
    (h : Ag fl a b) (same : motive b) (fault : ∀ g, motive (.error (fl, g))) : motive a := by
  rcases h with rfl | ⟨g, rfl⟩
  · exact same
  · exact fault g

theorem Ag.ok {α : Type} {fl : Fault} {a b : Except (Fault × GState) α} {r : α} (h : Ag fl a b) (ha : a = .ok r) : b = .ok r := by
  rcases h with rfl | ⟨g, rfl⟩
  · exact ha
  · cases ha

def BinAg (c1 c2 : Cfg) (fl : Fault) : Prop :=
  ∀ (op : TT) (a b : SVal), binArith c1 op a b = binArith c2 op a b ∨ binArith c1 op a b = .error fl

theorem binArith_ag : BinAg nativeCfg vmCfg .divZero := by
  intro op a b
  rcases binArith_cases vmCfg op a b with ⟨hop, x, rfl, rfl⟩ | ⟨hc, -⟩
  · exact .inr (binArith_zero _ hop x)
  · exact .inl (hc _)

structure AgAll (p : Program) (c1 c2 : Cfg) (fl : Fault) (n m : Nat) : Prop where
  expr : ∀ loc g e, Ag fl (evalExpr c1 p n loc g e) (evalExpr c2 p m loc g e)
  args : ∀ loc g es, Ag fl (evalArgs c1 p n loc g es) (evalArgs c2 p m loc g es)
  fields : ∀ loc g ds fn vs, Ag fl (evalFields c1 p n loc g ds fn vs) (evalFields c2 p m loc g ds fn vs)
  stmt : ∀ loc g s, Ag fl (execStmt c1 p n loc g s) (execStmt c2 p m loc g s)
  block : ∀ loc g ss, Ag fl (execBlock c1 p n loc g ss) (execBlock c2 p m loc g ss)
  stmts : ∀ loc g ss, Ag fl (execStmts c1 p n loc g ss) (execStmts c2 p m loc g ss)
  whileL : ∀ loc g c b, Ag fl (execWhile c1 p n loc g c b) (execWhile c2 p m loc g c b)
  forL : ∀ loc g v xs b, Ag fl (execFor c1 p n loc g v xs b) (execFor c2 p m loc g v xs b)

section succ
/- One more unit of fuel on both sides: unfold one step; on the goal `Ag fl (match a with ..) (match b with ..)`
   `Ag.elim` puts the second run's sub-evaluation `b` in place of the first's `a` (where `a` is the fault, the `match`
   passes it on: `fun _ => .fault`); what follows is the same on both sides. -/
variable {p : Program} {c1 c2 : Cfg} {fl : Fault} {n m : Nat} (ih : AgAll p c1 c2 fl n m)
include ih

theorem ag_args_succ (loc : Locals) (g : GState) (es : List Expr) :
    Ag fl (evalArgs c1 p (n+1) loc g es) (evalArgs c2 p (m+1) loc g es) := by
  cases es with
  | nil => exact .rfl
  | cons a r =>
    simp only [evalArgs]
    refine (ih.expr loc g a).elim ?_ fun _ => .fault
    split
    · exact .rfl
    · exact (ih.args loc _ r).elim .rfl fun _ => .fault

theorem ag_fields_succ (loc : Locals) (g : GState) (ds fn : List String) (vs : List Expr) :
    Ag fl (evalFields c1 p (n+1) loc g ds fn vs) (evalFields c2 p (m+1) loc g ds fn vs) := by
  cases ds with
  | nil => exact .rfl
  | cons d ds =>
    simp only [evalFields]
    split
    · exact (ih.fields loc g ds fn vs).elim .rfl fun _ => .fault
    · refine (ih.expr loc g _).elim ?_ fun _ => .fault
      split
      · exact .rfl
      · exact (ih.fields loc _ ds fn vs).elim .rfl fun _ => .fault

theorem ag_block_succ (loc : Locals) (g : GState) (ss : List Stmt) :
    Ag fl (execBlock c1 p (n+1) loc g ss) (execBlock c2 p (m+1) loc g ss) := by
  simp only [execBlock]
  exact (ih.stmts loc g ss).elim .rfl fun _ => .fault

theorem ag_stmts_succ (loc : Locals) (g : GState) (ss : List Stmt) :
    Ag fl (execStmts c1 p (n+1) loc g ss) (execStmts c2 p (m+1) loc g ss) := by
  cases ss with
  | nil => exact .rfl
  | cons s r =>
    simp only [execStmts]
    refine (ih.stmt loc g s).elim ?_ fun _ => .fault
    split
    · exact .rfl
    · exact ih.stmts _ _ _
    · exact .rfl

theorem ag_while_succ (loc : Locals) (g : GState) (c : Expr) (b : List Stmt) :
    Ag fl (execWhile c1 p (n+1) loc g c b) (execWhile c2 p (m+1) loc g c b) := by
  simp only [execWhile]
  refine (ih.expr loc g c).elim ?_ fun _ => .fault
  split
  · exact .rfl
  · exact .rfl
  · refine (ih.block loc _ b).elim ?_ fun _ => .fault
    split
    · exact .rfl
    · exact .rfl
    · exact .rfl
    · exact ih.whileL _ _ _ _
  · exact .rfl

theorem ag_for_succ (loc : Locals) (g : GState) (v : String) (xs : List SVal) (b : List Stmt) :
    Ag fl (execFor c1 p (n+1) loc g v xs b) (execFor c2 p (m+1) loc g v xs b) := by
  cases xs with
  | nil => exact .rfl
  | cons x xs =>
    simp only [execFor]
    refine (ih.block ((v, x) :: loc) g b).elim ?_ fun _ => .fault
    split
    · exact .rfl
    · exact .rfl
    · exact .rfl
    · exact ih.forL _ _ _ _ _

theorem ag_stmt_succ (loc : Locals) (g : GState) (s : Stmt) :
    Ag fl (execStmt c1 p (n+1) loc g s) (execStmt c2 p (m+1) loc g s) := by
  cases s with
  | letS x mt t e => simp only [execStmt]; exact (ih.expr loc g e).elim .rfl fun _ => .fault
  | setS x e => simp only [execStmt]; exact (ih.expr loc g e).elim .rfl fun _ => .fault
  | ifS c t els ei =>
    simp only [execStmt]
    refine (ih.expr loc g c).elim ?_ fun _ => .fault
    split
    · exact .rfl
    · exact ih.block _ _ _
    · split
      · exact .rfl
      · exact ih.block _ _ _
    · exact .rfl
  | whileS c b => simp only [execStmt]; exact ih.whileL _ _ _ _
  | forS v rg b =>
    simp only [execStmt]
    refine (ih.expr loc g rg).elim ?_ fun _ => .fault
    split
    · exact .rfl
    · exact ih.forL _ _ _ _ _
    · exact .rfl
  | ret oe =>
    cases oe with
    | none => exact .rfl
    | some e => simp only [execStmt]; exact (ih.expr loc g e).elim .rfl fun _ => .fault
  | breakS => exact .rfl
  | continueS => exact .rfl
  | printS ln e => simp only [execStmt]; exact (ih.expr loc g e).elim .rfl fun _ => .fault
  | assertS e => simp only [execStmt]; exact (ih.expr loc g e).elim .rfl fun _ => .fault
  | exprS e => simp only [execStmt]; exact (ih.expr loc g e).elim .rfl fun _ => .fault
  | block ss => simp only [execStmt]; exact ih.block _ _ _

theorem ag_expr_succ (hbin : BinAg c1 c2 fl) (loc : Locals) (g : GState) (e : Expr) :
    Ag fl (evalExpr c1 p (n+1) loc g e) (evalExpr c2 p (m+1) loc g e) := by
  cases e with
  | num v => exact .rfl
  | flt r => exact .rfl
  | bool b => exact .rfl
  | str r => exact .rfl
  | ident x => exact .rfl
  | tupleIdx o i => exact .rfl
  | tuple es => exact .rfl
  | field o fld => simp only [evalExpr]; exact (ih.expr loc g o).elim .rfl fun _ => .fault
  | arrayLit es => simp only [evalExpr]; exact (ih.args loc g es).elim .rfl fun _ => .fault
  | structLit n fn vs =>
    simp only [evalExpr]
    split
    · exact .rfl
    · exact (ih.fields loc g _ fn vs).elim .rfl fun _ => .fault
  | call fname args =>
    simp only [evalExpr]
    refine (ih.args loc g args).elim ?_ fun _ => .fault
    -- a fault in the arguments, a builtin, a builtin's name, an unknown function, a wrong arity: the same on both sides
    split
    · exact .rfl
    split
    · exact .rfl
    split
    · exact .rfl
    split
    · exact .rfl
    split
    · exact .rfl
    · exact (ih.stmts _ _ _).elim .rfl fun _ => .fault
  | prefixOp op args =>
    match args with
    | [] => exact .rfl
    | [a] => simp only [evalExpr]; exact (ih.expr loc g a).elim .rfl fun _ => .fault
    | a :: b :: c :: r => exact .rfl
    | [a, b] =>
      simp only [evalExpr]
      refine (ih.expr loc g a).elim ?_ fun _ => .fault
      split
      · exact .rfl
      rename_i va g1 _
      -- `and`, `or`; otherwise both operands, then `binArith`
      split
      · split
        · exact .rfl
        · exact (ih.expr loc g1 b).elim .rfl fun _ => .fault
        · exact .rfl
      split
      · split
        · exact .rfl
        · exact (ih.expr loc g1 b).elim .rfl fun _ => .fault
        · exact .rfl
      refine (ih.expr loc g1 b).elim ?_ fun _ => .fault
      split
      · exact .rfl
      rename_i vb g2 _
      rcases hbin op va vb with h | h <;> rw [h]
      · exact .rfl
      · exact .fault

theorem AgAll.succ (hbin : BinAg c1 c2 fl) : AgAll p c1 c2 fl (n+1) (m+1) :=
  ⟨ag_expr_succ ih hbin, ag_args_succ ih, ag_fields_succ ih, ag_stmt_succ ih, ag_block_succ ih, ag_stmts_succ ih,
   ag_while_succ ih, ag_for_succ ih⟩

end succ

theorem agAll (p : Program) : ∀ fuel, AgAll p nativeCfg vmCfg .divZero fuel fuel
  | 0 => by constructor <;> intros <;> exact .rfl
  | f+1 => (agAll p f).succ binArith_ag

theorem fuelAll (p : Program) (c : Cfg) : ∀ fuel, AgAll p c c .fuel fuel (fuel + 1)
  | 0 => by constructor <;> intros <;> exact .fault
  | f+1 => (fuelAll p c f).succ fun _ _ _ => .inl rfl

theorem initGlobals_ag {p : Program} {c1 c2 : Cfg} {fl : Fault} {n m : Nat} (hall : AgAll p c1 c2 fl n m)
    (items : List Item) (g : GState) : Ag fl (initGlobals c1 p n items g) (initGlobals c2 p m items g) := by
  induction items generalizing g with
  | nil => exact .rfl
  | cons it r ih =>
    cases it with
    | glet name mt t e =>
      simp only [initGlobals]
      refine (hall.expr [] g e).elim ?_ fun _ => .fault
      split
      · exact .rfl
      · exact ih _
    | _ => exact ih g

theorem runProgram_eq_of_agAll {p : Program} {c1 c2 : Cfg} {fl : Fault} {n m : Nat} (hall : AgAll p c1 c2 fl n m)
    (h : (runProgram c1 p n).res ≠ .fault fl) : runProgram c1 p n = runProgram c2 p m := by
  revert h
  unfold runProgram
  refine (initGlobals_ag hall p {}).elim ?_ fun _ h => absurd rfl h
  split
  · exact fun _ => rfl
  · exact (hall.expr [] _ _).elim (fun _ => rfl) fun _ h => absurd rfl h

theorem runProgram_ag (p : Program) (fuel : Nat)
    (h : (runProgram nativeCfg p fuel).res ≠ .fault .divZero) :
    runProgram nativeCfg p fuel = runProgram vmCfg p fuel :=
  runProgram_eq_of_agAll (agAll p fuel) h

theorem runProgram_fuel_mono (p : Program) (c : Cfg) (fuel : Nat)
    (h : (runProgram c p fuel).res ≠ .fault .fuel) (k : Nat) :
    runProgram c p (fuel + k) = runProgram c p fuel := by
  induction k with
  | zero => rfl
  | succ k ih =>
    have h' : (runProgram c p (fuel + k)).res ≠ .fault .fuel := by rw [ih]; exact h
    have := runProgram_eq_of_agAll (fuelAll p c (fuel + k)) h'
    rw [← ih, this]; rfl

end NanoVerif.Sem
