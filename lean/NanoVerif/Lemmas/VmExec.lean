/-
Runs of the dispatch loop that stay `running` and how they compose (`Runs`), code at a position inside a
function (`CodeAt`), and one dispatch of `step` on the encoding of a known instruction.
-/
import NanoVerif.Model.Vm
import NanoVerif.Lemmas.Isa
import NanoVerif.Lemmas.VmCore

namespace NanoVerif
open Gen

/-- up to `n` dispatches, stopping at the first that does not leave the core `running` -/
def runN (m : Module) : Nat → VmState → Step
  | 0, s => (s, .running)
  | n+1, s =>
    match step m s with
    | (s', .running) => runN m n s'
    | r => r

theorem runN_succ_inv {m : Module} {a : Nat} {s s1 : VmState} (h : runN m (a + 1) s = (s1, .running)) :
    ∃ s', step m s = (s', .running) ∧ runN m a s' = (s1, .running) := by
  simp only [runN] at h
  split at h
  · exact ⟨_, ‹_›, h⟩
  · rename_i hne
    exact absurd (h ▸ rfl) (hne s1)

theorem runN_prefix {m : Module} {F : Nat → VmState → Step}
    (hF : ∀ k s s', step m s = (s', .running) → F (k + 1) s = F k s') {a : Nat} (k : Nat) {s s1 : VmState}
    (h : runN m a s = (s1, .running)) : F (a + k) s = F k s1 := by
  induction a generalizing s with
  | zero => cases h; simp
  | succ a ih =>
    obtain ⟨s', hs, h'⟩ := runN_succ_inv h
    rw [Nat.add_right_comm, hF _ _ _ hs]
    exact ih h'

theorem runN_add (m : Module) (a b : Nat) (s s1 : VmState) (h : runN m a s = (s1, .running)) :
    runN m (a + b) s = runN m b s1 :=
  runN_prefix (fun _ _ _ hs => by rw [runN, hs]) b h

theorem runLoop_of_runN (m : Module) (a k : Nat) (s s1 : VmState) (h : runN m a s = (s1, .running)) :
    runLoop m (a + k) s = runLoop m k s1 :=
  runN_prefix (fun _ _ _ hs => by rw [runLoop, hs]) k h

/-- `s` reaches `s'` by finitely many dispatches, each of which leaves the core `running` -/
def Runs (m : Module) (s s' : VmState) : Prop := ∃ n, runN m n s = (s', .running)

theorem Runs.refl (m : Module) (s : VmState) : Runs m s s := ⟨0, rfl⟩

theorem Runs.trans {m : Module} {s s1 s2 : VmState} (h1 : Runs m s s1) (h2 : Runs m s1 s2) : Runs m s s2 := by
  obtain ⟨a, ha⟩ := h1
  obtain ⟨b, hb⟩ := h2
  exact ⟨a + b, by rw [runN_add m a b s s1 ha, hb]⟩

theorem Runs.loop {m : Module} {s s' : VmState} (h : Runs m s s') :
    ∃ n, ∀ k, runLoop m (n + k) s = runLoop m k s' := by
  obtain ⟨n, hn⟩ := h
  exact ⟨n, fun k => runLoop_of_runN m n k s s' hn⟩

theorem Runs.loop_done {m : Module} {s s' sf : VmState} (h : Runs m s s') (hd : step m s' = (sf, .done)) :
    ∃ n, ∀ k, runLoop m (n + 1 + k) s = (sf, .done) := by
  obtain ⟨n, hn⟩ := h.loop
  refine ⟨n, fun k => ?_⟩
  rw [Nat.add_assoc, hn, Nat.add_comm 1 k]
  simp only [runLoop, hd]

/-- function `curFn` of `m` spans `[lo, hi)`, without uint32 wrap and inside the code section; that section is
    below 2 GiB so that a signed 32-bit jump offset reaches every position (`jmp_target`) -/
def InFn (m : Module) (curFn lo hi : Nat) : Prop :=
  ∃ fn, m.functions[curFn]? = some fn ∧ fn.codeOffset ≤ lo ∧ hi ≤ fn.codeOffset + fn.codeLength ∧
    fn.codeOffset + fn.codeLength ≤ m.code.length ∧ m.code.length < 2147483648

/-- the bytes `bs` lie at `ip` inside function `curFn` -/
def CodeAt (m : Module) (curFn ip : Nat) (bs : Bytes) : Prop :=
  InFn m curFn ip (ip + bs.length) ∧ ∃ rest, m.code.drop ip = bs ++ rest

theorem CodeAt.left {m : Module} {f ip : Nat} {a b : Bytes} (h : CodeAt m f ip (a ++ b)) : CodeAt m f ip a := by
  obtain ⟨⟨fn, h1, h2, h3, h4, h5⟩, rest, hr⟩ := h
  refine ⟨⟨fn, h1, h2, ?_, h4, h5⟩, b ++ rest, by rw [hr, List.append_assoc]⟩
  simp only [List.length_append] at h3; omega

theorem CodeAt.right {m : Module} {f ip : Nat} {a b : Bytes} (h : CodeAt m f ip (a ++ b)) : CodeAt m f (ip + a.length) b := by
  obtain ⟨⟨fn, h1, h2, h3, h4, h5⟩, rest, hr⟩ := h
  refine ⟨⟨fn, h1, by omega, ?_, h4, h5⟩, rest, ?_⟩
  · simp only [List.length_append] at h3; omega
  · have : m.code.drop (ip + a.length) = (m.code.drop ip).drop a.length := by rw [List.drop_drop]
    rw [this, hr, List.append_assoc, List.drop_left]

theorem CodeAt.bound {m : Module} {f ip : Nat} {bs : Bytes} (h : CodeAt m f ip bs) : ip + bs.length < 2147483648 := by
  obtain ⟨⟨fn, _, _, h3, h4, h5⟩, _⟩ := h
  omega

theorem Opc.ofByte_toByte (op : Opc) : Opc.ofByte op.toByte = some op := by
  cases op <;> rfl

theorem Opc.toByte_lt (op : Opc) : op.toByte < 256 := by
  cases op <;> decide

theorem step_at {m : Module} {s : VmState} {fr : Frame} {frs : List Frame} {op : Opc} {args : List Nat} {bs : Bytes}
    (hfr : s.frames = fr :: frs) (hc : CodeAt m s.curFn s.ip bs)
    (he : encode ⟨op.toByte, args⟩ = some bs) (hwf : Instr.wf ⟨op.toByte, args⟩) :
    step m s = execInstr m { s with toCore := { s.toCore with ip := s.ip + bs.length } } s.ip op args := by
  obtain ⟨⟨fn, h1, h2, h3, h4, h5⟩, rest, hr⟩ := hc
  have hlen : 0 < bs.length := by
    have := decode_encode _ bs [] hwf he
    cases bs with
    | nil => simp [decode] at this
    | cons => simp
  unfold step
  simp only [h1, hfr, List.isEmpty_cons, Bool.false_eq_true, if_false]
  have hu : u32 (fn.codeOffset + fn.codeLength) = fn.codeOffset + fn.codeLength := by
    unfold u32; omega
  rw [hu, if_pos (by omega), if_neg (by omega), hr]
  have htk : (bs ++ rest).take (fn.codeOffset + fn.codeLength - s.ip) = bs ++ rest.take (fn.codeOffset + fn.codeLength - s.ip - bs.length) := by
    rw [List.take_append, List.take_of_length_le (by omega)]
  rw [htk, decode_encode _ bs _ hwf he]
  simp only [Opc.ofByte_toByte]

theorem step_data {m : Module} {s : VmState} {fr : Frame} {frs : List Frame} {op : Opc} {args : List Nat} {bs : Bytes}
    (hfr : s.frames = fr :: frs) (hc : CodeAt m s.curFn s.ip bs)
    (he : encode ⟨op.toByte, args⟩ = some bs) (hwf : Instr.wf ⟨op.toByte, args⟩) (hctl : Opc.isControl op = false) :
    step m s =
      ({ s with toCore := (execData' m fr { s.toCore with ip := s.ip + bs.length } s.ip op args).1 },
       (execData' m fr { s.toCore with ip := s.ip + bs.length } s.ip op args).2.toOutcome) := by
  rw [step_at hfr hc he hwf]
  unfold execInstr
  simp only [hfr, List.headD_cons, execData_data hctl]

end NanoVerif
