import NanoVerif.Model.Vm
namespace NanoVerif
open Gen (Opc)

theorem pop_push (c : Core) (v : Val) : (c.push v).pop = (c, v) := by
  simp [Core.push, Core.pop]

theorem execData_data {m : Module} {fr : Frame} {c : Core} {st : Nat} {op : Opc} {args : List Nat}
    (h : Opc.isControl op = false) : execData m fr c st op args = some (execData' m fr c st op args) := by
  rw [execData, h]; rfl

theorem toOutcome_dangling {o : DOutcome} {w : String} (h : o.toOutcome = .dangling w) : o = .dangling w := by
  cases o <;> cases h; rfl

/-- not an access outside the frame array, the function table or the code section -/
def Outcome.InTables (o : Outcome) : Prop := ∀ w, o ≠ .oob w

theorem toOutcome_inTables (o : DOutcome) : o.toOutcome.InTables := by
  cases o <;> nofun

/-- what a step has to do for the rules below: `I` holds of the state it leaves, whatever the outcome; `G` of
    the outcome; `J` of the state if the VM keeps running from it -/
def Keeps (I J : VmState → Prop) (G : Outcome → Prop) (r : Step) : Prop :=
  I r.1 ∧ G r.2 ∧ (r.2 = .running → J r.1)

variable {m : Module} {I J : VmState → Prop} {G : Outcome → Prop}

theorem Keeps.of_eq {r : Step} {s : VmState} (h : Keeps I J G r) (e : r = (s, .running)) : J s := by
  subst e; exact h.2.2 rfl

theorem runLoop_rule (hJI : ∀ s, J s → I s) (hstep : ∀ s, J s → Keeps I J G (step m s))
    (hfuel : G (.unsupported "fuel")) :
    ∀ fuel s, J s → I (runLoop m fuel s).1 ∧ G (runLoop m fuel s).2
  | 0, s, hs => ⟨hJI s hs, hfuel⟩
  | fuel + 1, s, hs => by
    have hk := hstep s hs
    unfold runLoop
    split
    · rename_i s' heq
      exact runLoop_rule hJI hstep hfuel fuel s' (hk.of_eq heq)
    · exact ⟨hk.1, hk.2.1⟩

/-- `__init__` and the entry point each start from an `I`-state: the initial one, or the one `__init__` left -/
theorem execute_rule (hJI : ∀ s, J s → I s) (hstep : ∀ s, J s → Keeps I J G (step m s))
    (hfuel : G (.unsupported "fuel")) (h0 : I {}) (hcall : ∀ s f, I s → Keeps I J G (callFunction m s f))
    (herr : G (.err Gen.vmErr_undefinedFunction)) (fuel : Nat) :
    I (execute m fuel).1 ∧ G (execute m fuel).2 := by
  -- with an equation, since that is how `split` hands over the run of `__init__` below
  have hrun : ∀ s f fl, I s → ∀ r, (match callFunction m s f with
            | (s', Outcome.running) => (runLoop m fl s', fuelLeft m fl s')
            | r => (r, fl)) = r → I r.1.1 ∧ G r.1.2 := by
    intro s f fl hs r hr
    subst hr
    have hk := hcall s f hs
    split
    · rename_i s' heq
      exact runLoop_rule hJI hstep hfuel fl s' (hk.of_eq heq)
    · exact ⟨hk.1, hk.2.1⟩
  unfold execute
  dsimp only
  split
  · exact ⟨h0, herr⟩
  split
  · exact ⟨h0, herr⟩
  split
  · split
    · rename_i heq
      exact hrun _ _ _ (hrun _ _ _ h0 _ heq).1 _ rfl
    · rename_i heq
      exact hrun _ _ _ h0 _ heq
  · exact hrun _ _ _ h0 _ rfl

end NanoVerif
