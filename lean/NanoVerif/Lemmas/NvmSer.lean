import NanoVerif.Model.Nvm
namespace NanoVerif

theorem rd_eq (data : Bytes) (off n : Nat) : rd data off n = leVal <$> rdBytes data off n := by
  unfold rd rdBytes
  cases slice? data off n <;> rfl

theorem addString_of_mem {ss : List Bytes} {s : Bytes} (h : s ∈ ss) :
    ∃ i, addString ss s = (ss, i) ∧ ss[i]? = some s := by
  unfold addString
  cases hf : ss.findIdx? (· == s) with
  | some i =>
    obtain ⟨hi, hx, _⟩ := List.findIdx?_eq_some_iff_getElem.mp hf
    exact ⟨i, rfl, by rw [List.getElem?_eq_getElem hi, beq_iff_eq.mp hx]⟩
  | none => simpa using List.findIdx?_eq_none_iff.mp hf s h

theorem addString_of_not_mem {ss : List Bytes} {s : Bytes} (h : s ∉ ss) :
    addString ss s = (ss ++ [s], ss.length) := by
  unfold addString
  cases hf : ss.findIdx? (· == s) with
  | some i =>
    obtain ⟨hi, hx, _⟩ := List.findIdx?_eq_some_iff_getElem.mp hf
    exact absurd (beq_iff_eq.mp hx ▸ List.getElem_mem hi) h
  | none => rfl

theorem addString_fst (ss : List Bytes) (s : Bytes) :
    (addString ss s).1 = if s ∈ ss then ss else ss ++ [s] := by
  split
  · obtain ⟨i, hi, _⟩ := addString_of_mem ‹_›
    rw [hi]
  · rw [addString_of_not_mem ‹_›]

theorem u32_of_lt {n : Nat} (h : n < 4294967296) : u32 n = n := Nat.mod_eq_of_lt h

theorem serFn_length (f : FnEntry) : (serFn f).length = 18 := by simp [serFn]

theorem serDebug_length (d : DebugEntry) : (serDebug d).length = 8 := by simp [serDebug]

theorem importParams_length (i : ImportEntry) : (importParams i).length = i.paramCount := by
  unfold importParams
  cases i.paramTypes with
  | none => simp
  | some pt => simp; omega

theorem serImport_length (i : ImportEntry) : (serImport i).length = 11 + i.paramCount := by
  simp [serImport, importParams_length]; omega

theorem dirEntries_length (off : Nat) (l : List (Nat × Bytes)) : (dirEntries off l).length = 12 * l.length := by
  induction l generalizing off with
  | nil => rfl
  | cons a r ih => obtain ⟨ty, d⟩ := a; simp [dirEntries, ih]; omega

theorem dirEntries_append (off : Nat) (a b : List (Nat × Bytes)) :
    dirEntries off (a ++ b) = dirEntries off a ++ dirEntries (off + (a.flatMap (·.2)).length) b := by
  induction a generalizing off with
  | nil => simp [dirEntries]
  | cons x r ih =>
    obtain ⟨ty, d⟩ := x
    simp only [List.cons_append, dirEntries, ih, List.flatMap_cons, List.length_append, List.append_assoc]
    rw [Nat.add_assoc]

theorem headerOf_length (m : Module) (secs : List (Nat × Bytes)) (crc : Nat) :
    (headerOf m secs crc).length = Gen.headerSize := by
  simp [headerOf, Gen.nvmMagic, Gen.headerSize]

end NanoVerif
