/-
Styled expression trees — every operator node says whether it is written in prefix form `(op a b)` or in
infix form `a op b` — their spelling as token lists, and the parser lemmas behind C07: every valid
spelling of a tree parses to the same `Expr`.
-/
import NanoVerif.Model.Parser

namespace NanoVerif
open Gen

/-- expression trees with the token texts at the leaves and a style flag on operator nodes
    (`pre = true`: written `(op …)`, `false`: written infix / unary without parentheses) -/
inductive ST
  | num (b : Bytes)
  | var (b : Bytes)
  | tru
  | fls
  | un (pre : Bool) (op : TT) (e : ST)
  | bin (pre : Bool) (op : TT) (a b : ST)
  | call (f : Bytes) (args : List ST)
  | field (e : ST) (name : Bytes)
deriving Repr, Inhabited

mutual
/-- the tree a spelling denotes (style flags forgotten) -/
def ST.toExpr : ST → Expr
  | .num b => .num (atoll b)
  | .var b => .ident (bytesToString b)
  | .tru => .bool true
  | .fls => .bool false
  | .un _ op e => .prefixOp op [e.toExpr]
  | .bin _ op a b => .prefixOp op [a.toExpr, b.toExpr]
  | .call f args => .call (bytesToString f) (ST.toExprs args)
  | .field e n => .field e.toExpr (bytesToString n)
def ST.toExprs : List ST → List Expr
  | [] => []
  | a :: r => a.toExpr :: ST.toExprs r
end

def tk (t : TT) (v : Bytes := []) : Tok := ⟨t, v⟩

mutual
/-- spelling where the parser expects a primary with its postfix chain (right operand, unary operand,
    object of a field access) -/
def printO : ST → List Tok
  | .num b => [tk .T_NUMBER b]
  | .var b => [tk .T_IDENTIFIER b]
  | .tru => [tk .T_TRUE]
  | .fls => [tk .T_FALSE]
  | .un true op e => [tk .T_LPAREN, tk op] ++ printL e ++ [tk .T_RPAREN]
  | .un false op e => tk op :: printO e
  | .bin true op a b => [tk .T_LPAREN, tk op] ++ printL a ++ printL b ++ [tk .T_RPAREN]
  | .bin false op a b => [tk .T_LPAREN] ++ printL a ++ [tk op] ++ printO b ++ [tk .T_RPAREN]
  | .call f args => [tk .T_LPAREN, tk .T_IDENTIFIER f] ++ printLs args ++ [tk .T_RPAREN]
  | .field e n => printO e ++ [tk .T_DOT, tk .T_IDENTIFIER n]
/-- spelling where the parser expects a whole expression (statement position, argument, operand of a
    prefix form): an infix node continues the chain without parentheses -/
def printL : ST → List Tok
  | .bin false op a b => printL a ++ [tk op] ++ printO b
  | .num b => [tk .T_NUMBER b]
  | .var b => [tk .T_IDENTIFIER b]
  | .tru => [tk .T_TRUE]
  | .fls => [tk .T_FALSE]
  | .un true op e => [tk .T_LPAREN, tk op] ++ printL e ++ [tk .T_RPAREN]
  | .un false op e => tk op :: printO e
  | .bin true op a b => [tk .T_LPAREN, tk op] ++ printL a ++ printL b ++ [tk .T_RPAREN]
  | .call f args => [tk .T_LPAREN, tk .T_IDENTIFIER f] ++ printLs args ++ [tk .T_RPAREN]
  | .field e n => printO e ++ [tk .T_DOT, tk .T_IDENTIFIER n]
def printLs : List ST → List Tok
  | [] => []
  | a :: r => printL a ++ printLs r
end

/-- the spelling starts with an operator token -/
def startsOp : ST → Bool
  | .un false _ _ => true
  | .bin false _ a _ => startsOp a
  | .field e _ => startsOp e
  | _ => false

def lowerId (b : Bytes) : Prop := isUpperFirst b = false

def isUnOp (t : TT) : Prop := t = .T_MINUS ∨ t = .T_NOT
def isBinOp (t : TT) : Prop := infixOps.contains t = true

mutual
/-- spellings the theorem covers (`validO`: where `printO` is used, `validL`: where `printL` is used):
    * identifiers do not start with an upper-case letter (F-C07-2: the parser reads `X <` and `X {` as
      type syntax);
    * directly after an opening parenthesis of an infix group, and after the callee or an earlier argument of a
      call or prefix form, an expression does not start with an operator token (`( - …` is the prefix form and
      `(f a -b)` is a subtraction by the language's own rules);
    * the object of a field access is not a bare unary operation (`-y.f` is `-(y.f)`). -/
def ST.validO : ST → Prop
  | .num _ => True
  | .var b => lowerId b
  | .tru => True
  | .fls => True
  | .un true op e => isUnOp op ∧ e.validL
  | .un false op e => isUnOp op ∧ e.validO
  | .bin true op a b => isBinOp op ∧ a.validL ∧ b.validL ∧ startsOp b = false
  | .bin false op a b => isBinOp op ∧ a.validL ∧ b.validO ∧ startsOp a = false
  | .call f args => lowerId f ∧ ST.validArgs args
  | .field e n => lowerId n ∧ e.validO ∧ (match e with | .un false _ _ => False | _ => True)
def ST.validL : ST → Prop
  | .bin false op a b => isBinOp op ∧ a.validL ∧ b.validO
  | .num _ => True
  | .var b => lowerId b
  | .tru => True
  | .fls => True
  | .un true op e => isUnOp op ∧ e.validL
  | .un false op e => isUnOp op ∧ e.validO
  | .bin true op a b => isBinOp op ∧ a.validL ∧ b.validL ∧ startsOp b = false
  | .call f args => lowerId f ∧ ST.validArgs args
  | .field e n => lowerId n ∧ e.validO ∧ (match e with | .un false _ _ => False | _ => True)
def ST.validArgs : List ST → Prop
  | [] => True
  | a :: r => a.validL ∧ startsOp a = false ∧ ST.validArgs r
end

mutual
/-- nesting of `parse_expression` calls below a `parse_primary` at which `printO e` starts -/
def dO : ST → Nat
  | .num _ => 0
  | .var _ => 0
  | .tru => 0
  | .fls => 0
  | .un true _ e => dL e
  | .un false _ e => dO e
  | .bin true _ a b => max (dL a) (dL b)
  | .bin false _ a b => max (dL a) (1 + dO b)
  | .call _ args => max 1 (dLs args)
  | .field e _ => dO e
/-- nesting of `parse_expression` calls (this one included) for `printL e` -/
def dL : ST → Nat
  | .bin false _ a b => max (dL a) (1 + dO b)
  | .num _ => 1
  | .var _ => 1
  | .tru => 1
  | .fls => 1
  | .un true _ e => 1 + dL e
  | .un false _ e => 1 + dO e
  | .bin true _ a b => 1 + max (dL a) (dL b)
  | .call _ args => 1 + max 1 (dLs args)
  | .field e _ => 1 + dO e
def dLs : List ST → Nat
  | [] => 0
  | a :: r => max (dL a) (dLs r)
end

/-- "for all sufficiently large fuel" -/
def Ev {α : Type} (g : Nat → α) (v : α) : Prop := ∃ N, ∀ f, N ≤ f → g f = v

theorem Ev.always {α : Type} {g : Nat → α} {v : α} (H : ∀ f, g (f + 1) = v) : Ev g v :=
  ⟨1, fun f hf => by obtain ⟨k, rfl⟩ : ∃ k, f = k + 1 := ⟨f - 1, by omega⟩; exact H k⟩

/-- `Ev.and`, `next_fuel`, `Ev.congr` are stated on the written-out `∃ N, ∀ f, N ≤ f → …`; an `Ev` enters and leaves
    by unfolding, so `.and` nests. -/
theorem Ev.and {α : Type} {g : Nat → α} {v : α} {Q : Nat → Prop} (hg : Ev g v) (hq : ∃ N, ∀ f, N ≤ f → Q f) :
    ∃ N, ∀ f, N ≤ f → g f = v ∧ Q f := by
  obtain ⟨N1, h1⟩ := hg
  obtain ⟨N2, h2⟩ := hq
  exact ⟨max N1 N2, fun f hf => ⟨h1 f (by omega), h2 f (by omega)⟩⟩

/-- carries an unfolding lemma (fuel `f + 1` from the calls at fuel `f`) over to all sufficiently large fuel -/
theorem next_fuel {P Q : Nat → Prop} (hp : ∃ N, ∀ f, N ≤ f → P f) (H : ∀ f, P f → Q (f + 1)) :
    ∃ N, ∀ f, N ≤ f → Q f := by
  obtain ⟨N, hN⟩ := hp
  refine ⟨N + 1, fun f hf => ?_⟩
  obtain ⟨k, rfl⟩ : ∃ k, f = k + 1 := ⟨f - 1, by omega⟩
  exact H k (hN k (by omega))

theorem Ev.congr {α : Type} {g h : Nat → α} {v : α} (hg : Ev g v) (e : ∃ N, ∀ f, N ≤ f → h f = g f) : Ev h v := by
  obtain ⟨N, hN⟩ := hg.and e
  exact ⟨N, fun f hf => (hN f hf).2.trans (hN f hf).1⟩

@[simp] theorem curTy_cons (t : Tok) (r : List Tok) : curTy (t :: r) = t.ty := rfl
@[simp] theorem curVal_cons (t : Tok) (r : List Tok) : curVal (t :: r) = t.val := rfl
theorem adv_cons {t : Tok} {r : List Tok} (h : r ≠ []) : adv (t :: r) = r := by
  cases r with
  | nil => exact absurd rfl h
  | cons u r => rfl
@[simp] theorem adv_cons2 (t u : Tok) (r : List Tok) : adv (t :: u :: r) = u :: r := rfl
@[simp] theorem peekTy_zero (t : Tok) (r : List Tok) : peekTy (t :: r) 0 = t.ty := rfl
@[simp] theorem peekTy_succ (t : Tok) (r : List Tok) (k : Nat) : peekTy (t :: r) (k + 1) = peekTy r k := by
  simp [peekTy]
@[simp] theorem peekVal_succ (t : Tok) (r : List Tok) (k : Nat) : peekVal (t :: r) (k + 1) = peekVal r k := by
  simp [peekVal]
theorem peekTy_zero' (r : List Tok) : peekTy r 0 = curTy r := by
  cases r <;> simp [peekTy, curTy]
theorem peekVal_zero' (r : List Tok) : peekVal r 0 = curVal r := by
  cases r <;> simp [peekVal, curVal]

section
variable (op : TT) (a b e : ST) (n f : Bytes) (l : List ST) (rest : List Tok)

theorem printO_un_pre :
    printO (.un true op e) ++ rest = tk .T_LPAREN :: tk op :: (printLs [e] ++ tk .T_RPAREN :: rest) := by
  simp [printO, printLs]

theorem printO_bin_pre :
    printO (.bin true op a b) ++ rest = tk .T_LPAREN :: tk op :: (printLs [a, b] ++ tk .T_RPAREN :: rest) := by
  simp [printO, printLs]

theorem printO_infix :
    printO (.bin false op a b) ++ rest = tk .T_LPAREN :: (printL (.bin false op a b) ++ tk .T_RPAREN :: rest) := by
  simp [printO, printL]

theorem printO_call :
    printO (.call f l) ++ rest = tk .T_LPAREN :: tk .T_IDENTIFIER f :: (printLs l ++ tk .T_RPAREN :: rest) := by
  simp [printO]

theorem printO_field : printO (.field e n) ++ rest = printO e ++ tk .T_DOT :: tk .T_IDENTIFIER n :: rest := by
  simp [printO]

theorem printL_infix : printL (.bin false op a b) ++ rest = printL a ++ tk op :: (printO b ++ rest) := by
  simp [printL]

theorem printLs_cons : printLs (a :: l) ++ rest = printL a ++ (printLs l ++ rest) := by
  simp [printLs]

end

theorem ST.infix_or_same (e : ST) : (∃ op a b, e = .bin false op a b) ∨
    (printL e = printO e ∧ (e.validL → e.validO) ∧ dL e = 1 + dO e) := by
  cases e with
  | bin pre op a b => cases pre with
    | false => exact .inl ⟨op, a, b, rfl⟩
    | true => exact .inr ⟨rfl, id, rfl⟩
  | un pre op x => cases pre <;> exact .inr ⟨rfl, id, rfl⟩
  | _ => exact .inr ⟨rfl, id, rfl⟩

theorem ST.same_of_ne {e : ST} (h : ∀ op a b, e ≠ .bin false op a b) :
    printL e = printO e ∧ (e.validL → e.validO) ∧ dL e = 1 + dO e :=
  e.infix_or_same.resolve_left fun ⟨op, a, b, he⟩ => h op a b he

theorem printL_eq_printO (e : ST) (h : ∀ op a b, e ≠ .bin false op a b) : printL e = printO e :=
  (ST.same_of_ne h).1

theorem validL_validO (e : ST) (h : ∀ op a b, e ≠ .bin false op a b) (hv : e.validL) : e.validO :=
  (ST.same_of_ne h).2.1 hv

theorem dL_eq (e : ST) (h : ∀ op a b, e ≠ .bin false op a b) : dL e = 1 + dO e :=
  (ST.same_of_ne h).2.2

theorem dL_pos (e : ST) : 1 ≤ dL e := by
  rcases e.infix_or_same with ⟨op, a, b, rfl⟩ | ⟨_, _, h⟩
  · simp only [dL]; omega
  · omega

/-- token kinds a spelling can start with when it does not start with an operator -/
def primHead (t : TT) : Prop :=
  t = .T_NUMBER ∨ t = .T_IDENTIFIER ∨ t = .T_TRUE ∨ t = .T_FALSE ∨ t = .T_LPAREN

/-- after a plain variable: no `::`, and after `.` no upper-case name (`Module.Type {` test, parser.c 1546-1569) -/
def GoodRest (rest : List Tok) : Prop :=
  rest ≠ [] ∧ curTy rest ≠ .T_DOUBLE_COLON ∧ (curTy rest = .T_DOT → isUpperFirst (peekVal rest 1) = false)

/-- the keywords `parse_expression` dispatches on before `parse_primary` -/
def notSpecial (t : TT) : Prop := t ≠ .T_IF ∧ t ≠ .T_MATCH ∧ t ≠ .T_COND

/-- after an operand: no `.` (its postfix chain would go on), no `::` (qualified name, see `GoodRest`) -/
def StopDot (rest : List Tok) : Prop := rest ≠ [] ∧ curTy rest ≠ .T_DOT ∧ curTy rest ≠ .T_DOUBLE_COLON

/-- a whole-expression position whose continuation is neither a postfix nor an infix operator -/
def StopRest (rest : List Tok) : Prop := StopDot rest ∧ infixOps.contains (curTy rest) = false

theorem GoodRest.ne_nil {rest : List Tok} (h : GoodRest rest) : rest ≠ [] := h.1
theorem StopDot.ne_nil {rest : List Tok} (h : StopDot rest) : rest ≠ [] := h.1
theorem StopDot.not_dot {rest : List Tok} (h : StopDot rest) : curTy rest ≠ .T_DOT := h.2.1
theorem StopRest.stopDot {rest : List Tok} (h : StopRest rest) : StopDot rest := h.1
theorem StopRest.not_dot {rest : List Tok} (h : StopRest rest) : curTy rest ≠ .T_DOT := h.stopDot.not_dot
theorem StopRest.not_infix {rest : List Tok} (h : StopRest rest) : infixOps.contains (curTy rest) = false := h.2

theorem goodRest_of_stopDot {rest : List Tok} (h : StopDot rest) : GoodRest rest :=
  ⟨h.ne_nil, h.2.2, fun hd => absurd hd h.not_dot⟩

theorem stopDot_binop {op : TT} (h : isBinOp op) (r : List Tok) : StopDot (tk op :: r) := by
  refine ⟨by simp, ?_, ?_⟩ <;> (rintro rfl; exact absurd h (by unfold isBinOp; decide))

theorem stopRest_rparen (rest : List Tok) : StopRest (tk .T_RPAREN :: rest) :=
  ⟨⟨by simp, nofun, nofun⟩, rfl⟩

theorem ne_nil_of_ne_eof {ts : List Tok} (h : curTy ts ≠ .T_EOF) : ts ≠ [] := by
  rintro rfl
  exact h rfl

/-- grouped by where the parser tests it: at the start of an expression; after `(` or a callee; after an operand -/
theorem primHead_tests {t : TT} (h : primHead t) :
    (notSpecial t ∧ t ≠ .T_RPAREN ∧ t ≠ .T_EOF) ∧ (isOperatorTok t = false ∧ t ≠ .T_COMMA) ∧
      t ≠ .T_DOT ∧ t ≠ .T_DOUBLE_COLON ∧ infixOps.contains t = false := by
  rcases h with rfl | rfl | rfl | rfl | rfl <;>
    exact ⟨⟨⟨nofun, nofun, nofun⟩, nofun, nofun⟩, ⟨rfl, nofun⟩, nofun, nofun, rfl⟩

theorem ne_nil_of_primHead {ts : List Tok} (h : primHead (curTy ts)) : ts ≠ [] :=
  have ⟨⟨_, _, hne⟩, _⟩ := primHead_tests h
  ne_nil_of_ne_eof hne

theorem stopRest_of_primHead {ts : List Tok} (h : primHead (curTy ts)) : StopRest ts :=
  have ⟨_, _, h1, h2, h3⟩ := primHead_tests h
  ⟨⟨ne_nil_of_primHead h, h1, h2⟩, h3⟩

theorem head_tests {t : TT} (h : primHead t ∨ isUnOp t) : notSpecial t ∧ t ≠ .T_RPAREN ∧ t ≠ .T_EOF := by
  rcases h with h | rfl | rfl
  · exact (primHead_tests h).1
  · exact ⟨⟨nofun, nofun, nofun⟩, nofun, nofun⟩
  · exact ⟨⟨nofun, nofun, nofun⟩, nofun, nofun⟩

theorem headO (e : ST) (h : e.validO) (rest : List Tok) :
    primHead (curTy (printO e ++ rest)) ∨ (startsOp e = true ∧ isUnOp (curTy (printO e ++ rest))) := by
  match e with
  | .num _ => exact .inl (.inl rfl)
  | .var _ => exact .inl (.inr (.inl rfl))
  | .tru => exact .inl (.inr (.inr (.inl rfl)))
  | .fls => exact .inl (.inr (.inr (.inr (.inl rfl))))
  | .un true _ _ | .bin true _ _ _ | .bin false _ _ _ | .call _ _ => exact .inl (.inr (.inr (.inr (.inr rfl))))
  | .un false op x => exact .inr ⟨rfl, h.1⟩
  | .field x n => rw [printO_field]; exact headO x h.2.1 _

theorem headL (e : ST) (h : e.validL) (rest : List Tok) :
    primHead (curTy (printL e ++ rest)) ∨ (startsOp e = true ∧ isUnOp (curTy (printL e ++ rest))) := by
  rcases e.infix_or_same with ⟨op, a, b, rfl⟩ | ⟨hp, hv, _⟩
  · rw [printL_infix]; exact headL a h.2.1 _
  · rw [hp]; exact headO e (hv h) rest
termination_by sizeOf e

theorem head_prim (e : ST) (h : e.validL) (hs : startsOp e = false) (rest : List Tok) :
    primHead (curTy (printL e ++ rest)) :=
  (headL e h rest).resolve_right (by simp [hs])

theorem head_notSpecial (e : ST) (h : e.validL) (rest : List Tok) : notSpecial (curTy (printL e ++ rest)) ∧
    curTy (printL e ++ rest) ≠ .T_RPAREN ∧ curTy (printL e ++ rest) ≠ .T_EOF :=
  head_tests ((headL e h rest).imp_right And.right)

theorem printL_ne_nil (e : ST) (h : e.validL) : printL e ≠ [] := by
  simpa using ne_nil_of_ne_eof (head_notSpecial e h []).2.2

theorem printO_ne_nil (e : ST) (h : e.validO) : printO e ≠ [] := by
  simpa using ne_nil_of_ne_eof (head_tests ((headO e h []).imp_right And.right)).2.2

theorem isOperatorTok_of_un {op : TT} (h : isUnOp op) : isOperatorTok op = true := by
  rcases h with rfl | rfl <;> decide

theorem isOperatorTok_of_bin {op : TT} (h : isBinOp op) : isOperatorTok op = true := by
  simp [isOperatorTok, isBinOp] at *; exact .inl h

section unfold
variable {f d : Nat} {op : TT} {b : Bytes} {e e' rhs rhs' : Expr} {ts r r' r2 r3 rest : List Tok}
  {acc args : List Expr} {v : PRes Expr}

theorem postfix_stop (h : curTy ts ≠ .T_DOT) : postfixChain (f + 1) e ts = .ok (e, ts) := by
  simp [postfixChain, h]

theorem postfix_field (hb : lowerId b) (hr : rest ≠ []) :
    postfixChain (f + 1) e (tk .T_DOT :: tk .T_IDENTIFIER b :: rest) =
      postfixChain f (.field e (bytesToString b)) rest := by
  -- the union-literal test `X.Y {` of `parse_postfix_chain` (parser.c 2391-2399) needs an upper-case `Y`
  have hu : isUpperFirst b = false := hb
  simp [postfixChain, tk, adv_cons hr, hu]

theorem exprLoop_done (h1 : postfixChain f e ts = .ok (e', r)) (h2 : infixOps.contains (curTy r) = false) :
    exprLoop (f + 1) d e ts = .ok (e', r) := by
  simp [exprLoop, h1]
  intro h; simp [h] at h2

theorem exprLoop_step (h1 : postfixChain f e ts = .ok (e', r)) (h2 : infixOps.contains (curTy r) = true)
    (h3 : parsePrimary f d (adv r) = .ok (rhs, r2)) (h4 : postfixChain f rhs r2 = .ok (rhs', r3)) :
    exprLoop (f + 1) d e ts = exprLoop f d (.prefixOp (curTy r) [e', rhs']) r3 := by
  simp [exprLoop, h1, h3, h4]
  intro h; simp at h2; exact absurd h2 h

/-- the infix loop starts with a postfix chain, so one ending before `r'` can be run beforehand -/
theorem exprLoop_absorb (h : postfixChain f e r = .ok (e', r')) (hd : curTy r' ≠ .T_DOT) :
    exprLoop (f + 1) d e r = exprLoop (f + 1) d e' r' := by
  cases f with
  | zero => simp [postfixChain] at h
  | succ k => simp only [exprLoop, h, postfix_stop hd]

theorem prim_num (hr : rest ≠ []) : parsePrimary (f + 1) d (tk .T_NUMBER b :: rest) = .ok (.num (atoll b), rest) := by
  simp [parsePrimary, tk, adv_cons hr]

theorem prim_true (hr : rest ≠ []) : parsePrimary (f + 1) d (tk .T_TRUE :: rest) = .ok (.bool true, rest) := by
  simp [parsePrimary, tk, adv_cons hr]

theorem prim_false (hr : rest ≠ []) : parsePrimary (f + 1) d (tk .T_FALSE :: rest) = .ok (.bool false, rest) := by
  simp [parsePrimary, tk, adv_cons hr]

theorem prim_ident (hb : lowerId b) (hr : GoodRest rest) :
    parsePrimary (f + 1) d (tk .T_IDENTIFIER b :: rest) = .ok (.ident (bytesToString b), rest) := by
  obtain ⟨hne, hdc, hdot⟩ := hr
  simp only [lowerId] at hb
  simp only [parsePrimary, tk, curTy_cons, curVal_cons, peekTy_succ, peekVal_succ, peekTy_zero', adv_cons hne, hb]
  by_cases hq : curTy rest = .T_DOT
  · simp [hq, hdot hq]
  · simp [hq, hdc]

theorem prim_unary (hop : isUnOp op) (hts : ts ≠ [])
    (h1 : parsePrimary f d ts = .ok (e, r)) (h2 : postfixChain f e r = .ok (e', r')) :
    parsePrimary (f + 1) d (tk op :: ts) = .ok (.prefixOp op [e'], r') := by
  rcases hop with rfl | rfl <;> simp [parsePrimary, tk, adv_cons hts, h1, h2]

theorem prim_prefixop (hop : isOperatorTok op = true) (hts : ts ≠ []) (h1 : parseArgs f d ts [] = .ok (args, r)) :
    parsePrimary (f + 1) d (tk .T_LPAREN :: tk op :: ts) = .ok (.prefixOp op args, r) := by
  have hne : op ≠ .T_RPAREN := by rintro rfl; exact absurd hop (by decide)
  simp [parsePrimary, tk, adv_cons hts, hop, hne, h1]

/-- only an operator node comes back as itself: `( x )` is the call `x()`, `( m.f )` a module call -/
theorem prim_paren (ht : primHead (curTy ts)) (hr : rest ≠ [])
    (h1 : parseExpr f d ts = .ok (.prefixOp op args, tk .T_RPAREN :: rest)) :
    parsePrimary (f + 1) d (tk .T_LPAREN :: ts) = .ok (.prefixOp op args, rest) := by
  obtain ⟨⟨_, h3, _⟩, ⟨h2, _⟩, _⟩ := primHead_tests ht
  simp [parsePrimary, tk, peekTy_zero', h2, h3, h1, adv_cons (ne_nil_of_primHead ht), adv_cons hr]

/-- without arguments `parse_primary` closes the call itself; the result is the argument loop's either way -/
theorem prim_call (hc : curTy ts ≠ .T_COMMA)
    (h1 : parseExpr f d (tk .T_IDENTIFIER b :: ts) = .ok (.ident (bytesToString b), ts))
    (h2 : parseArgs f d ts [] = .ok (args, r)) :
    parsePrimary (f + 1) d (tk .T_LPAREN :: tk .T_IDENTIFIER b :: ts) = .ok (.call (bytesToString b) args, r) := by
  have hid : isOperatorTok .T_IDENTIFIER = false := by decide
  simp only [tk] at h1
  by_cases hp : curTy ts = .T_RPAREN
  · cases f with
    | zero => simp [parseArgs] at h2
    | succ k =>
      simp [parseArgs, hp] at h2
      simp [parsePrimary, tk, hid, h1, hp, h2]
  · simp [parsePrimary, tk, hid, h1, hc, hp, h2]

theorem parseExpr_step (hd : d + 1 ≤ maxRecursionDepth) (hs : notSpecial (curTy ts))
    (h1 : parsePrimary f (d + 1) ts = .ok (e, r)) (h2 : exprLoop f (d + 1) e r = v) :
    parseExpr (f + 1) d ts = v := by
  obtain ⟨a, b, c⟩ := hs
  have hd' : ¬ (d + 1 > maxRecursionDepth) := by omega
  simp only [parseExpr, hd', if_false]
  split <;> simp_all

theorem parseArgs_nil (hr : rest ≠ []) : parseArgs (f + 1) d (tk .T_RPAREN :: rest) acc = .ok (acc.reverse, rest) := by
  simp [parseArgs, tk, adv_cons hr]

theorem parseArgs_cons (h1 : curTy ts ≠ .T_RPAREN) (h2 : curTy ts ≠ .T_EOF) (h3 : parseExpr f d ts = .ok (e, r)) :
    parseArgs (f + 1) d ts acc = parseArgs f d r (e :: acc) := by
  simp [parseArgs, h1, h2, h3]

end unfold

/-- `-y.f` is `-(y.f)`: no `.` may follow an unparenthesised unary operation -/
def noDotAfterUn (e : ST) (rest : List Tok) : Prop :=
  match e with
  | .un false _ _ => curTy rest ≠ .T_DOT
  | _ => True

theorem noDotAfterUn_of_ne (e : ST) {rest : List Tok} (h : curTy rest ≠ .T_DOT) : noDotAfterUn e rest := by
  unfold noDotAfterUn
  split <;> trivial

theorem noDotAfterUn_of_field {e : ST} (h : match e with | .un false _ _ => False | _ => True) (rest : List Tok) :
    noDotAfterUn e rest := by
  unfold noDotAfterUn
  split <;> simp_all

/-- conclusion of `thmO`: `parse_primary` takes a prefix of the spelling; the postfix chain from there behaves as from
    the whole operand -/
def OpRes (e : ST) (d : Nat) (rest : List Tok) : Prop :=
  ∃ x r, Ev (fun f => parsePrimary f d (printO e ++ rest)) (.ok (x, r)) ∧
    ∀ v, Ev (fun f => postfixChain f e.toExpr rest) v → Ev (fun f => postfixChain f x r) v

/-- conclusion of `chainL`: the same one level up, for the infix loop after the first primary -/
def ChainRes (e : ST) (d : Nat) (rest : List Tok) : Prop :=
  ∃ x r, Ev (fun f => parsePrimary f (d + 1) (printL e ++ rest)) (.ok (x, r)) ∧
    ∀ v, Ev (fun f => exprLoop f (d + 1) e.toExpr rest) v → Ev (fun f => exprLoop f (d + 1) x r) v

theorem opRes_of_whole {e : ST} {d : Nat} {rest : List Tok}
    (h : Ev (fun f => parsePrimary f d (printO e ++ rest)) (.ok (e.toExpr, rest))) : OpRes e d rest :=
  ⟨_, rest, h, fun _ hv => hv⟩

theorem opRes_of_prefix {e : ST} {op : TT} {l : List ST} {d : Nat} {rest : List Tok}
    (hp : printO e ++ rest = tk .T_LPAREN :: tk op :: (printLs l ++ tk .T_RPAREN :: rest))
    (he : e.toExpr = .prefixOp op (ST.toExprs l)) (hop : isOperatorTok op = true)
    (ha : Ev (fun f => parseArgs f d (printLs l ++ tk .T_RPAREN :: rest) []) (.ok (ST.toExprs l, rest))) :
    OpRes e d rest :=
  opRes_of_whole (hp ▸ he ▸ next_fuel ha fun _ e1 => prim_prefixop hop (by simp) e1)

theorem ev_postfix_stop (e : Expr) (ts : List Tok) (h : curTy ts ≠ .T_DOT) :
    Ev (fun f => postfixChain f e ts) (.ok (e, ts)) :=
  .always fun _ => postfix_stop h

theorem ev_exprLoop_stop (d : Nat) (e : Expr) (ts : List Tok) (h : StopRest ts) :
    Ev (fun f => exprLoop f d e ts) (.ok (e, ts)) :=
  next_fuel (ev_postfix_stop e ts h.not_dot) fun _ h1 => exprLoop_done h1 h.not_infix

theorem OpRes.stop {e : ST} {d : Nat} {rest : List Tok} (h : OpRes e d rest) (hd : curTy rest ≠ .T_DOT) :
    ∃ x r, Ev (fun f => parsePrimary f d (printO e ++ rest)) (.ok (x, r)) ∧
      Ev (fun f => postfixChain f x r) (.ok (e.toExpr, rest)) := by
  obtain ⟨x, r, h1, h2⟩ := h
  exact ⟨x, r, h1, h2 _ (ev_postfix_stop _ _ hd)⟩

theorem chain_of_op {e : ST} {d : Nat} {rest : List Tok} (hp : printL e = printO e)
    (h : OpRes e (d + 1) rest) (hd : curTy rest ≠ .T_DOT) : ChainRes e d rest := by
  obtain ⟨x, r, h1, h2⟩ := h.stop hd
  exact ⟨x, r, hp ▸ h1, fun v hv => hv.congr (next_fuel h2 fun _ e1 => exprLoop_absorb e1 hd)⟩

theorem chain_step {a b : ST} {op : TT} {d : Nat} {rest : List Tok}
    (ha : ChainRes a d (tk op :: (printO b ++ rest))) (hb : OpRes b (d + 1) rest)
    (hop : isBinOp op) (hr : StopDot rest) : ChainRes (.bin false op a b) d rest := by
  obtain ⟨x, r, h1, h2⟩ := ha
  obtain ⟨xb, rb, hb1, hb2⟩ := hb.stop hr.not_dot
  have hs := stopDot_binop hop (printO b ++ rest)
  refine ⟨x, r, printL_infix op a b rest ▸ h1, fun v hv => h2 v ?_⟩
  exact next_fuel (hv.and ((ev_postfix_stop a.toExpr _ hs.not_dot).and (hb1.and hb2))) fun f ⟨e0, e1, e2, e3⟩ =>
    (exprLoop_step e1 (by simpa [tk, isBinOp] using hop) (by rw [adv_cons (by simp [hr.ne_nil])]; exact e2) e3).trans e0

theorem parseL_of_chain {e : ST} {d : Nat} {rest : List Tok} (h : ChainRes e d rest) (hv : e.validL)
    (hd : d + dL e ≤ maxRecursionDepth) (hr : StopRest rest) :
    Ev (fun f => parseExpr f d (printL e ++ rest)) (.ok (e.toExpr, rest)) := by
  obtain ⟨x, r, h1, h2⟩ := h
  have hd1 := dL_pos e
  exact next_fuel (h1.and (h2 _ (ev_exprLoop_stop (d + 1) _ rest hr))) fun f ⟨e1, e2⟩ =>
    parseExpr_step (by omega) (head_notSpecial e hv rest).1 e1 e2

/-- the arguments still to be read: a leading operator on the first would only harm the expression before it, the
    caller's concern -/
def ST.validArgsTail : List ST → Prop
  | [] => True
  | a :: r => a.validL ∧ ST.validArgs r

theorem validArgsTail_of_validArgs {l : List ST} (h : ST.validArgs l) : ST.validArgsTail l := by
  cases l with
  | nil => trivial
  | cons a r => exact ⟨h.1, h.2.2⟩

theorem args_stop (l : List ST) (h : ST.validArgs l) (rest : List Tok) :
    StopRest (printLs l ++ tk .T_RPAREN :: rest) ∧ curTy (printLs l ++ tk .T_RPAREN :: rest) ≠ .T_COMMA := by
  cases l with
  | nil => exact ⟨stopRest_rparen rest, nofun⟩
  | cons a r =>
    have ht : primHead (curTy (printLs (a :: r) ++ tk .T_RPAREN :: rest)) :=
      printLs_cons a r _ ▸ head_prim a h.1 h.2.1 _
    have ⟨_, ⟨_, hcomma⟩, _⟩ := primHead_tests ht
    exact ⟨stopRest_of_primHead ht, hcomma⟩

theorem parse_ident_expr (d : Nat) (x : Bytes) (rest : List Tok) (hx : lowerId x) (hd : d + 1 ≤ maxRecursionDepth)
    (hr : StopRest rest) :
    Ev (fun f => parseExpr f d (tk .T_IDENTIFIER x :: rest)) (.ok (.ident (bytesToString x), rest)) :=
  parseL_of_chain (e := .var x)
    (chain_of_op rfl (opRes_of_whole (.always fun _ => prim_ident hx (goodRest_of_stopDot hr.stopDot))) hr.not_dot) hx hd hr

mutual
/-- `+ 3`, `+ 4`, `+ 2` leave room for the lists `[x]`, `[a, b]`, `args` that `thmO` hands to `thmArgs` -/
def ST.sz : ST → Nat
  | .num _ => 1
  | .var _ => 1
  | .tru => 1
  | .fls => 1
  | .un _ _ e => e.sz + 3
  | .bin _ _ a b => a.sz + b.sz + 4
  | .call _ args => ST.szs args + 2
  | .field e _ => e.sz + 1
def ST.szs : List ST → Nat
  | [] => 0
  | a :: r => a.sz + ST.szs r + 1
end

/-! The induction.  `thmO e`: where the parser expects a primary it reads `printO e` — all of it, or for a field
    access its head, the rest falling to the postfix chain it runs next.  `chainL e`: where it expects a whole
    expression, the first primary and the infix loop after it behave as the loop after all of `printL e`; an infix
    node gives its left part to `chainL` and its right operand to `thmO` (`chain_step`), anything else is an operand
    (`chain_of_op`).  `thmArgs l`: the argument loop reads `printLs l` up to the closing parenthesis. -/
mutual
theorem thmO (e : ST) (hv : e.validO) (d : Nat) (rest : List Tok) (hd : d + dO e ≤ maxRecursionDepth)
    (hr : GoodRest rest) (hu : noDotAfterUn e rest) : OpRes e d rest := by
  match e with
  | .num b => exact opRes_of_whole (.always fun _ => prim_num hr.ne_nil)
  | .var b => exact opRes_of_whole (.always fun _ => prim_ident hv hr)
  | .tru => exact opRes_of_whole (.always fun _ => prim_true hr.ne_nil)
  | .fls => exact opRes_of_whole (.always fun _ => prim_false hr.ne_nil)
  | .un true op x =>
    obtain ⟨hop, hx⟩ := hv
    exact opRes_of_prefix (printO_un_pre op x rest) rfl (isOperatorTok_of_un hop)
      (thmArgs [x] ⟨hx, trivial⟩ d rest [] (by simpa [dO, dLs] using hd) hr.ne_nil)
  | .un false op x =>
    obtain ⟨hop, hx⟩ := hv
    obtain ⟨y, r, h1, h2⟩ := (thmO x hx d rest hd hr (noDotAfterUn_of_ne x hu)).stop hu
    exact opRes_of_whole (next_fuel (h1.and h2) fun _ ⟨e1, e2⟩ => prim_unary hop (by simp [hr.ne_nil]) e1 e2)
  | .bin true op a b =>
    obtain ⟨hop, ha, hb, hsb⟩ := hv
    exact opRes_of_prefix (printO_bin_pre op a b rest) rfl (isOperatorTok_of_bin hop)
      (thmArgs [a, b] ⟨ha, hb, hsb, trivial⟩ d rest [] (by simpa [dO, dLs] using hd) hr.ne_nil)
  | .bin false op a b =>
    obtain ⟨hop, ha, hb, hsa⟩ := hv
    simp only [dO] at hd
    have hrp := stopRest_rparen rest
    -- `chainL`'s infix case once more: `chainL` of this node lies above `thmO` of it in the termination measure
    have hch := chain_step (chainL a ha d _ (by omega) (stopDot_binop hop _))
      (thmO b hb (d + 1) _ (by omega) (goodRest_of_stopDot hrp.stopDot) (noDotAfterUn_of_ne b hrp.not_dot)) hop hrp.stopDot
    have hpl := parseL_of_chain hch ⟨hop, ha, hb⟩ hd hrp
    exact opRes_of_whole (next_fuel hpl fun _ e1 => by
      rw [printO_infix]; exact prim_paren (head_prim (.bin false op a b) ⟨hop, ha, hb⟩ hsa _) hr.ne_nil e1)
  | .call fn args =>
    obtain ⟨hfn, hargs⟩ := hv
    simp only [dO] at hd
    obtain ⟨hs, hc⟩ := args_stop args hargs rest
    have h1 := parse_ident_expr d fn _ hfn (by omega) hs
    have h2 := thmArgs args (validArgsTail_of_validArgs hargs) d rest [] (by omega) hr.ne_nil
    exact opRes_of_whole (next_fuel (h1.and h2) fun _ ⟨e1, e2⟩ => by
      rw [printO_call]; exact prim_call hc e1 e2)
  | .field x n =>
    obtain ⟨hn, hx, hm⟩ := hv
    have hr' : GoodRest (tk .T_DOT :: tk .T_IDENTIFIER n :: rest) := ⟨by simp, nofun, fun _ => hn⟩
    obtain ⟨y, r, h1, h2⟩ := thmO x hx d _ hd hr' (noDotAfterUn_of_field hm _)
    refine ⟨y, r, printO_field x n rest ▸ h1, fun v hv' => h2 v ?_⟩
    exact next_fuel hv' fun _ e1 => (postfix_field hn hr.ne_nil).trans e1
termination_by 2 * e.sz
decreasing_by all_goals simp only [ST.sz, ST.szs]; omega

theorem chainL (e : ST) (hv : e.validL) (d : Nat) (rest : List Tok) (hd : d + dL e ≤ maxRecursionDepth)
    (hr : StopDot rest) : ChainRes e d rest := by
  rcases e.infix_or_same with ⟨op, a, b, he⟩ | ⟨hp, hvo, hdo⟩
  · -- the termination goals speak of `e` itself, so its size is recorded before `e` is rewritten
    have hsz : e.sz = a.sz + b.sz + 4 := by rw [he, ST.sz]
    rw [he] at hv hd ⊢
    obtain ⟨hop, ha, hb⟩ := hv
    simp only [dL] at hd
    exact chain_step (chainL a ha d _ (by omega) (stopDot_binop hop _))
      (thmO b hb (d + 1) rest (by omega) (goodRest_of_stopDot hr) (noDotAfterUn_of_ne b hr.not_dot)) hop hr
  · exact chain_of_op hp
      (thmO e (hvo hv) (d + 1) rest (by omega) (goodRest_of_stopDot hr) (noDotAfterUn_of_ne e hr.not_dot)) hr.not_dot
termination_by 2 * e.sz + 1   -- `chainL e` calls `thmO e`: just above it, below everything larger
decreasing_by all_goals omega

theorem thmArgs (l : List ST) (hv : ST.validArgsTail l) (d : Nat) (rest : List Tok) (acc : List Expr)
    (hd : d + dLs l ≤ maxRecursionDepth) (hr : rest ≠ []) :
    Ev (fun f => parseArgs f d (printLs l ++ tk .T_RPAREN :: rest) acc) (.ok (acc.reverse ++ ST.toExprs l, rest)) := by
  match l, hv, hd with
  | [], _, _ => exact .always fun f => by simpa [printLs, ST.toExprs] using parseArgs_nil (f := f) (d := d) (acc := acc) hr
  | a :: l', ⟨ha, hl'⟩, hd =>
    simp only [dLs] at hd
    have hs := (args_stop l' hl' rest).1
    have hpa := parseL_of_chain (chainL a ha d _ (by omega) hs.stopDot) ha (by omega) hs
    have ih := thmArgs l' (validArgsTail_of_validArgs hl') d rest (a.toExpr :: acc) (by omega) hr
    obtain ⟨_, hrp, heof⟩ := head_notSpecial a ha (printLs l' ++ tk .T_RPAREN :: rest)
    exact next_fuel (hpa.and ih) fun _ ⟨e1, e2⟩ => by
      rw [printLs_cons]
      exact (parseArgs_cons hrp heof e1).trans (by simpa [ST.toExprs] using e2)
termination_by 2 * ST.szs l
decreasing_by all_goals simp only [ST.szs]; omega
end

end NanoVerif
