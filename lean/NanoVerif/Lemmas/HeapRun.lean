import NanoVerif.Lemmas.HeapOps
import NanoVerif.Lemmas.VmCore
namespace NanoVerif.C14
open Gen (Opc)

/-- the heap invariant of a full VM state at an instruction boundary -/
def VOK (s : VmState) : Prop := OK s.toCore s.frames

/-- `Good` for a step of the whole VM -/
def VGood (r : Step) : Prop := VOK r.1 ∧ ∀ w, r.2 ≠ .dangling w

theorem VGood.keeps {r : Step} (h : VGood r) : Keeps VOK VOK (fun o => ∀ w, o ≠ .dangling w) r :=
  ⟨h.1, h.2, fun _ => h.1⟩

theorem closureHeld_head (frames : List Frame) : ClosureHeld (frames.headD default) frames := by
  intro ca hca
  cases frames with
  | nil => cases hca
  | cons fr rest => simp [show fr.closure = some ca from hca]

theorem enterFn_good (m : Module) (s : VmState) (callee : Nat) (closure : Option Nat)
    (h : SX s.toCore s.frames (match closure with | some a => [Val.clos a] | none => [])) :
    VGood (enterFn m s callee closure) := by
  have hdrop : VOK s := h.mono fun w _ => by simp
  unfold enterFn
  split
  · exact ⟨hdrop, nofun⟩
  split
  · exact ⟨hdrop, nofun⟩
  · exact ⟨h.pushFrame rfl rfl rfl, nofun⟩

theorem unwindTo_ok {c : Core} {frames : List Frame} {ex : List Val} (base : Nat) (h : SX c frames ex) :
    SX (unwindTo c base) frames ex := by
  unfold unwindTo
  split
  · have h1 : SX { c with stack := c.stack.take base } frames ((c.stack.drop base).reverse ++ ex) := by
      refine HX.mono h fun w _ => ?_
      have := count_take_drop c.stack base w
      simp only [rootsOf, List.count_append, List.count_reverse] at this ⊢
      omega
    exact HX.releaseList h1
  · exact h

theorem doRet_good (s : VmState) (implicit : Bool) (h : VOK s) : VGood (doRet s implicit) := by
  unfold doRet
  split
  · split <;> exact ⟨h, nofun⟩
  rename_i fr rest hfr
  unfold VOK OK at h
  rw [hfr] at h
  generalize hpr : (if s.stack.length > u32 (fr.stackBase + fr.localCount) then s.toCore.pop else (s.toCore, Val.void)) = pr
  have h1 : SX pr.1 (fr :: rest) [pr.2] := by
    rw [← hpr]
    split
    · exact h.pop
    · exact h.mono fun w hw => by simp only [List.count_nil]; exact Nat.le_of_eq (count_void w hw)
  clear hpr
  obtain ⟨c1, result⟩ := pr
  have h2 := unwindTo_ok fr.stackBase h1
  dsimp only at h2 ⊢
  generalize unwindTo c1 fr.stackBase = c2 at h2 ⊢
  -- the frame's closure reference moves from the root set into the handler's hands and is released
  have h3 := h2.popFrame
  cases hcl : fr.closure with
  | none =>
    rw [hcl] at h3
    dsimp only
    split
    · exact ⟨h3.push, nofun⟩
    · exact ⟨h3.push, by cases implicit <;> nofun⟩
  | some a =>
    rw [hcl] at h3
    dsimp only
    split
    · exact ⟨h3.release.push, nofun⟩
    · exact ⟨h3.release.push, by cases implicit <;> nofun⟩

theorem execInstr_good (m : Module) (s : VmState) (is : Nat) (op : Opc) (args : List Nat) (h : VOK s) :
    VGood (execInstr m s is op args) := by
  unfold execInstr
  cases hc : Opc.isControl op
  · rw [execData_data hc]
    have hg : Good s.frames (execData' m _ s.toCore is op args) := execData_good h op (closureHeld_head s.frames)
    exact ⟨hg.1, fun w e => hg.2 w (toOutcome_dangling e)⟩
  · simp only [execData, hc, if_true]
    split
    · exact enterFn_good m s _ none h
    · exact doRet_good s false h
    · -- CALL_INDIRECT, CLOSURE_CALL: the popped function value
      have h1 : SX s.toCore.pop.1 s.frames [s.toCore.pop.2] := SX.pop h
      split
      · rename_i a hv
        obtain ⟨o, ho, hk⟩ := h1.head_obj hv rfl
        cases o <;> cases hk
        simp only [ho]
        exact enterFn_good m { s with toCore := s.toCore.pop.1 } _ (some a) (show SX s.toCore.pop.1 s.frames [Val.clos a] from hv ▸ h1)
      · split
        · exact ⟨h1.release, nofun⟩
        · exact ⟨h1.drop, nofun⟩

theorem step_good (m : Module) (s : VmState) (h : VOK s) : VGood (step m s) := by
  unfold step
  split
  · exact ⟨h, nofun⟩
  dsimp only
  split
  · exact ⟨h, nofun⟩
  split
  · split
    · exact ⟨h, nofun⟩
    split
    · exact ⟨h, nofun⟩
    split
    · exact ⟨h, nofun⟩
    · exact execInstr_good m _ _ _ _ h
  · exact doRet_good s true h

theorem callFunction_good (m : Module) (s : VmState) (f : Nat) (h : VOK s) : VGood (callFunction m s f) := by
  unfold callFunction
  split
  · exact ⟨h, nofun⟩
  split
  · exact ⟨h, nofun⟩
  · exact ⟨SX.pushFrame h rfl rfl rfl, nofun⟩

theorem vok_init : VOK {} :=
  ⟨List.nodup_nil, nofun, rfl, nofun, nofun, nofun, nofun⟩

theorem execute_good (m : Module) (fuel : Nat) : VGood (execute m fuel) :=
  execute_rule (fun _ h => h) (fun s h => (step_good m s h).keeps) nofun vok_init
    (fun s f h => (callFunction_good m s f h).keeps) nofun fuel

end NanoVerif.C14
