/-
The pure expression fragment: the handlers of its instructions, what `cExpr` emits and the reference computes
on each operator, and the simulation of the reference by the VM on the generated code.
-/
import NanoVerif.Lemmas.VmExec
import NanoVerif.Model.Compile
import NanoVerif.Model.Sem
import NanoVerif.Props.C02

namespace NanoVerif
open Gen

/-- `s` with a new instruction pointer and stack; everything else (heap, output, globals, frames) unchanged -/
def advS (s : VmState) (ip : Nat) (stack : List Val) : VmState :=
  { s with toCore := { s.toCore with ip := ip, stack := stack } }

@[simp] theorem advS_frames (s : VmState) (ip : Nat) (st : List Val) : (advS s ip st).frames = s.frames := rfl
@[simp] theorem advS_curFn (s : VmState) (ip : Nat) (st : List Val) : (advS s ip st).curFn = s.curFn := rfl
@[simp] theorem advS_ip (s : VmState) (ip : Nat) (st : List Val) : (advS s ip st).ip = ip := rfl
@[simp] theorem advS_stack (s : VmState) (ip : Nat) (st : List Val) : (advS s ip st).stack = st := rfl
@[simp] theorem advS_globals (s : VmState) (ip : Nat) (st : List Val) : (advS s ip st).globals = s.globals := rfl
@[simp] theorem advS_advS (s : VmState) (a b : Nat) (x y : List Val) : advS (advS s a x) b y = advS s b y := rfl

theorem wf_ins (op : Opc) (ts : List OperandType) (args : List Nat) (h : (lookup op.toByte).map (·.operands) = some ts)
    (hf : operandsFit ts args) : Instr.wf ⟨op.toByte, args⟩ := by
  obtain ⟨info, hl, rfl⟩ := Option.map_eq_some_iff.mp h
  exact ⟨Opc.toByte_lt op, info, hl, hf⟩

theorem wf0 (op : Opc) (h : (lookup op.toByte).map (·.operands) = some []) : Instr.wf ⟨op.toByte, []⟩ :=
  wf_ins op [] [] h trivial

theorem wf1 (op : Opc) (t : OperandType) (v : Nat) (h : (lookup op.toByte).map (·.operands) = some [t])
    (hv : v < 256 ^ Gen.operandSize t) : Instr.wf ⟨op.toByte, [v]⟩ :=
  wf_ins op [t] [v] h ⟨hv, trivial⟩

theorem pat64_lt (v : Int) : pat64 v < 18446744073709551616 := by
  unfold pat64; omega
theorem pat32_lt (v : Int) : pat32 v < 4294967296 := by
  unfold pat32; omega

-- how callers discharge the table hypothesis of `wf1`
example : (lookup Opc.PUSH_I64.toByte).map (·.operands) = some [.i64] := by decide

def Val.inert (v : Val) : Prop := v.addr? = none

-- the special case of `Val.inert` the fragment computes; a Bool function, so that a side condition
-- `Val.scalar v = true` closes by `rfl` once unification has filled in `v`
def Val.scalar : Val → Bool
  | .int _ | .bool _ => true
  | _ => false

theorem Val.scalar.inert {v : Val} (h : Val.scalar v = true) : Val.inert v := by
  cases v <;> first | rfl | cases h

theorem release_all_inert (h : Heap) (l : List Val) (hl : ∀ v ∈ l, Val.inert v) : h.release l = h := by
  induction l with
  | nil => rw [Heap.release]
  | cons v r ih =>
    have hv : v.addr? = none := hl v (by simp)
    rw [Heap.release]; simp only [hv]
    exact ih (fun w hw => hl w (by simp [hw]))

theorem core_release_inert (c : Core) (v : Val) (hv : Val.inert v) : c.release v = c := by
  unfold Core.release Heap.release1
  rw [release_all_inert _ _ (by simpa using hv)]

theorem core_retain_inert (c : Core) (v : Val) (hv : Val.inert v) : c.retain v = c := by
  unfold Core.retain Heap.retain
  rw [show v.addr? = none from hv]

@[simp] theorem core_release_scalar (c : Core) (v : Val) (hv : Val.scalar v = true) : c.release v = c :=
  core_release_inert c v (Val.scalar.inert hv)

theorem pop_append (c : Core) (st : List Val) (v : Val) (h : c.stack = st ++ [v]) :
    c.pop = ({ c with stack := st }, v) := by
  obtain ⟨_, ip, gl, hp, out⟩ := c
  subst h
  exact pop_push ⟨st, ip, gl, hp, out⟩ v

theorem encodeAll_cons_inv {x : PI} {r : List PI} {bs : Bytes} (h : encodeAll (x :: r) = some bs) :
    ∃ i bx br, x = .i i ∧ encode i = some bx ∧ encodeAll r = some br ∧ bs = bx ++ br := by
  cases x with
  | i i =>
    simp only [encodeAll] at h
    split at h
    · cases h
      exact ⟨i, _, _, rfl, ‹_›, ‹_›, rfl⟩
    · cases h
  | brk => simp [encodeAll] at h
  | cont => simp [encodeAll] at h

theorem encodeAll_append (a b : List PI) (bs : Bytes) (h : encodeAll (a ++ b) = some bs) :
    ∃ ba bb, encodeAll a = some ba ∧ encodeAll b = some bb ∧ bs = ba ++ bb := by
  induction a generalizing bs with
  | nil => exact ⟨[], bs, rfl, h, rfl⟩
  | cons x r ih =>
    obtain ⟨i, bx, br, rfl, hx, hr, rfl⟩ := encodeAll_cons_inv h
    obtain ⟨ba, bb, h1, h2, rfl⟩ := ih br hr
    exact ⟨bx ++ ba, bb, by simp [encodeAll, hx, h1], h2, (List.append_assoc ..).symm⟩

theorem encodeAll_single (op : Opc) (args : List Nat) (bs : Bytes) (h : encodeAll [ins op args] = some bs) :
    encode ⟨op.toByte, args⟩ = some bs := by
  simp only [ins, encodeAll] at h
  cases hx : encode ⟨op.toByte, args⟩ with
  | none => simp [hx] at h
  | some b => simp only [hx, List.append_nil, Option.some.injEq] at h; rw [h]

theorem encode_length (x : Instr) (b : Bytes) (h : encode x = some b) : b.length = instrSize x := by
  obtain ⟨info, ob, hl, ho, -, rfl⟩ := encode_eq_some.mp h
  simp [instrSize, hl, encodeOperands_length ho, operandsSize, Nat.add_comm]

theorem encodeAll_length (c : List PI) (bs : Bytes) (h : encodeAll c = some bs) : bs.length = codeSize c := by
  induction c generalizing bs with
  | nil => cases h; rfl
  | cons x r ih =>
    obtain ⟨i, bx, br, rfl, hx, hr, rfl⟩ := encodeAll_cons_inv h
    simp [codeSize, PI.size, encode_length i bx hx, ih br hr]

theorem single_length (op : Opc) (args : List Nat) (bs : Bytes) (h : encodeAll [ins op args] = some bs) :
    bs.length = instrSize ⟨op.toByte, args⟩ :=
  encode_length _ _ (encodeAll_single op args bs h)

theorem codeSize_append (a b : List PI) : codeSize (a ++ b) = codeSize a + codeSize b := by
  induction a with
  | nil => simp [codeSize]
  | cons x r ih => simp [codeSize, ih, Nat.add_assoc]

theorem codeSize_jmp (a : List Nat) : codeSize [ins .JMP a] = 5 := rfl
theorem codeSize_jmp_false (a : List Nat) : codeSize [ins .JMP_FALSE a] = 5 := rfl

/-- the encoding of the instruction list `c` lies at `ip` inside function `f` -/
def Placed (m : Module) (f ip : Nat) (c : List PI) : Prop := ∃ bs, encodeAll c = some bs ∧ CodeAt m f ip bs

theorem Placed.append {m : Module} {f ip : Nat} {a b : List PI} (h : Placed m f ip (a ++ b)) :
    Placed m f ip a ∧ Placed m f (ip + codeSize a) b := by
  obtain ⟨bs, he, hc⟩ := h
  obtain ⟨ba, bb, ha, hb, rfl⟩ := encodeAll_append a b bs he
  exact ⟨⟨ba, ha, hc.left⟩, bb, hb, encodeAll_length a ba ha ▸ hc.right⟩

theorem Placed.bound {m : Module} {f ip : Nat} {c : List PI} (h : Placed m f ip c) : ip + codeSize c < 2147483648 := by
  obtain ⟨bs, he, hc⟩ := h
  exact encodeAll_length c bs he ▸ hc.bound

theorem exec1 {m : Module} {s : VmState} {fr : Frame} {frs : List Frame} {op : Opc} {args : List Nat} {bs : Bytes}
    (hfr : s.frames = fr :: frs) (hc : CodeAt m s.curFn s.ip bs)
    (he : encodeAll [ins op args] = some bs) (hwf : Instr.wf ⟨op.toByte, args⟩) (hctl : Opc.isControl op = false)
    (c' : Core) (hx : execData' m fr { s.toCore with ip := s.ip + bs.length } s.ip op args = (c', .running)) :
    runN m 1 s = ({ s with toCore := c' }, .running) := by
  simp only [runN]
  rw [step_data hfr hc (encodeAll_single _ _ _ he) hwf hctl, hx]
  rfl

/-- one dispatch on a data instruction placed at `ip` (a state `advS s ip' stk'` is `{ s with toCore := c' }` for
    the evident `c'`) -/
theorem Runs.instr {m : Module} {s : VmState} {fr : Frame} {frs : List Frame} {op : Opc} {args : List Nat}
    {ip : Nat} {stk : List Val} {c' : Core} (hfr : s.frames = fr :: frs)
    (hp : Placed m s.curFn ip [ins op args]) (hwf : Instr.wf ⟨op.toByte, args⟩) (hctl : Opc.isControl op = false)
    (hx : execData' m fr { s.toCore with ip := ip + codeSize [ins op args], stack := stk } ip op args = (c', .running)) :
    Runs m (advS s ip stk) { s with toCore := c' } := by
  obtain ⟨bs, he, hc⟩ := hp
  have hl : bs.length = codeSize [ins op args] := encodeAll_length _ _ he
  exact ⟨1, exec1 (s := advS s ip stk) hfr hc he hwf hctl c' (hl ▸ hx)⟩

section handlers
-- The handlers are read off `execData'` by unfolding (`dsimp only`, `rfl`): `simp [execData']` would first
-- generate the equation lemmas of its 94-way match, anew in every proof.
variable (m : Module) (fr : Frame) (c : Core) (is : Nat) (st : List Val)

theorem ed_push_bool (v : Nat) : execData' m fr c is .PUSH_BOOL [v] = (c.push (.bool (v != 0)), .running) := rfl

theorem ed_load_local (k : Nat) (v : Val)
    (hk : fr.stackBase + k < 4294967296) (hv : c.stack[fr.stackBase + k]? = some v) (hs : Val.inert v) :
    execData' m fr c is .LOAD_LOCAL [k] = (c.push v, .running) := by
  have hu : u32 (fr.stackBase + k) = fr.stackBase + k := by unfold u32; omega
  have hlt : fr.stackBase + k < c.stack.length := (List.getElem?_eq_some_iff.mp hv).1
  have hg : c.stack.getD (fr.stackBase + k) .void = v := by
    rw [List.getD_eq_getElem?_getD, hv]; rfl
  dsimp only [execData']
  simp only [List.getD_cons_zero, hu]
  rw [if_neg (by omega), hg, core_retain_inert _ _ hs]
  rfl

theorem ed_load_global (k : Nat) (v : Val)
    (hk : k < Gen.vmMaxGlobals) (hv : c.globals.getD k .void = v) (hs : Val.inert v) :
    execData' m fr c is .LOAD_GLOBAL [k] = (c.push v, .running) := by
  dsimp only [execData']
  simp only [List.getD_cons_zero]
  rw [if_neg (by omega), hv, core_retain_inert _ _ hs]
  rfl

theorem ed_neg (x : I64) (h : c.stack = st ++ [.int x]) :
    execData' m fr c is .NEG [] = ({ c with stack := st ++ [.int (-x)] }, .running) := by
  dsimp only [execData']
  rw [pop_append c st _ h]
  rfl

theorem ed_not (b : Bool) (h : c.stack = st ++ [.bool b]) :
    execData' m fr c is .NOT [] = ({ c with stack := st ++ [.bool (!b)] }, .running) := by
  dsimp only [execData']
  rw [pop_append c st _ h]
  exact congrArg (·, DOutcome.running) (core_release_scalar _ _ rfl)

theorem ed_cast_bool (b : Bool) (h : c.stack = st ++ [.bool b]) :
    execData' m fr c is .CAST_BOOL [] = ({ c with stack := st ++ [.bool b] }, .running) := by
  dsimp only [execData']
  rw [pop_append c st _ h]
  dsimp only
  rw [core_release_scalar _ _ rfl]
  rfl

theorem stack2 (a b : Val) (h : c.stack = st ++ [a, b]) : c = (({ c with stack := st } : Core).push a).push b := by
  cases c; simp only [Core.push] at *; subst h; simp

theorem ed_arith (op : Opc) (hop : op = .ADD ∨ op = .SUB ∨ op = .MUL ∨ op = .DIV ∨ op = .MOD) (x y : I64)
    (h : c.stack = st ++ [.int x, .int y]) :
    execData' m fr c is op [] = ({ c with stack := st ++ [.int (C02.vmIntOp op x y)] }, .running) := by
  have e : execData' m fr c is op [] = binArith c op := by
    rcases hop with rfl | rfl | rfl | rfl | rfl <;> rfl
  rw [e, stack2 c st _ _ h, C02.vm_arith_handler _ op hop]
  simp [cont, Core.push]

def cmpInt (op : Opc) (x y : Int) : Bool :=
  match op with
  | .EQ => x == y | .NE => x != y | .LT => decide (x < y) | .LE => decide (x ≤ y) | .GT => decide (x > y) | _ => decide (x ≥ y)

-- `r` is `val_compare`'s three-way result on two integers
theorem cmpI_sign (x y r : Int) (hr : r = if x < y then -1 else if x > y then 1 else 0) :
    (r < 0 ↔ x < y) ∧ (r ≤ 0 ↔ x ≤ y) ∧ (r > 0 ↔ x > y) ∧ (r ≥ 0 ↔ x ≥ y) := by
  subst hr
  by_cases h1 : x < y <;> by_cases h2 : x > y <;> simp [h1, h2] <;> omega

theorem binCompare_scalar (a b : Val) (ha : Val.scalar a = true) (hb : Val.scalar b = true)
    (h : c.stack = st ++ [a, b]) (f : Heap → Val → Val → Option Bool) (r : Bool) (hf : ∀ hp, f hp a b = some r) :
    binCompare c f = ({ c with stack := st ++ [.bool r] }, .running) := by
  have hp : c.pop = ({ c with stack := st ++ [a] }, b) := pop_append c _ b (by rw [h]; simp)
  have hp2 : ({ c with stack := st ++ [a] } : Core).pop = ({ c with stack := st }, a) := pop_append _ st a rfl
  simp only [binCompare, hp, hp2, hf, cont]
  rw [core_release_scalar _ _ ha, core_release_scalar _ _ hb]
  rfl

theorem ed_cmp_int (op : Opc) (hop : op = .EQ ∨ op = .NE ∨ op = .LT ∨ op = .LE ∨ op = .GT ∨ op = .GE) (x y : I64)
    (h : c.stack = st ++ [.int x, .int y]) :
    execData' m fr c is op [] = ({ c with stack := st ++ [.bool (cmpInt op x.toInt y.toInt)] }, .running) := by
  have heq : (x == y) = (x.toInt == y.toInt) := (C02.cmp_agree x y).1
  have hs := cmpI_sign x.toInt y.toInt _ rfl
  rcases hop with rfl | rfl | rfl | rfl | rfl | rfl <;> dsimp only [execData'] <;>
    refine binCompare_scalar c st _ _ rfl rfl h _ _ (fun _ => ?_)
  · exact congrArg some heq
  · exact congrArg (fun b => some (!b)) heq
  · exact congrArg some (decide_eq_decide.mpr hs.1)
  · exact congrArg some (decide_eq_decide.mpr hs.2.1)
  · exact congrArg some (decide_eq_decide.mpr hs.2.2.1)
  · exact congrArg some (decide_eq_decide.mpr hs.2.2.2)

theorem ed_eq_bool (x y : Bool) (h : c.stack = st ++ [.bool x, .bool y]) :
    execData' m fr c is .EQ [] = ({ c with stack := st ++ [.bool (x == y)] }, .running) :=
  binCompare_scalar c st _ _ rfl rfl h valEqual _ (fun _ => rfl)

theorem ed_ne_bool (x y : Bool) (h : c.stack = st ++ [.bool x, .bool y]) :
    execData' m fr c is .NE [] = ({ c with stack := st ++ [.bool (x != y)] }, .running) :=
  binCompare_scalar c st _ _ rfl rfl h (fun h a b => (valEqual h a b).map (!·)) _ (fun _ => rfl)

-- the operand is the 32-bit two's-complement pattern of the offset `d`
theorem jmp_target (d : Int) (t : Nat) (ht : (is : Int) + d = t) (hlt : t < 2147483648)
    (hd : -2147483648 ≤ d ∧ d < 2147483648) :
    u32 (((is : Int) + toI32 (pat32 d)) % 4294967296).toNat = t := by
  have : toI32 (pat32 d) = d := by unfold toI32 pat32; split <;> omega
  rw [this, ht]; unfold u32; omega

theorem ed_jmp_to (d : Int) (t : Nat) (ht : (is : Int) + d = t) (hlt : t < 2147483648)
    (hd : -2147483648 ≤ d ∧ d < 2147483648) :
    execData' m fr c is .JMP [pat32 d] = ({ c with ip := t }, .running) := by
  dsimp only [execData']
  simp only [List.getD_cons_zero, jmp_target is d t ht hlt hd]
  rfl

theorem ed_jmp_if (d : Int) (t : Nat) (jt b : Bool) (hs : c.stack = st ++ [.bool b]) (ht : (is : Int) + d = t)
    (hlt : t < 2147483648) (hd : -2147483648 ≤ d ∧ d < 2147483648) :
    execData' m fr c is (if jt then .JMP_TRUE else .JMP_FALSE) [pat32 d] =
      ({ c with stack := st, ip := if b = jt then t else c.ip }, .running) := by
  have hj := jmp_target is d t ht hlt hd
  cases jt
  all_goals
    simp only [Bool.false_eq_true, if_false, if_true]
    dsimp only [execData']
    simp only [List.getD_cons_zero, hj, pop_append c st _ hs, truthy]
    rw [core_release_scalar _ _ rfl]
    cases b <;> rfl

end handlers

theorem Runs.jmp {m : Module} {s : VmState} {fr : Frame} {frs : List Frame} {d : Int} (t : Nat) (hfr : s.frames = fr :: frs)
    (hp : Placed m s.curFn s.ip [ins .JMP [pat32 d]]) (ht : (s.ip : Int) + d = t) (hlt : t < 2147483648)
    (hd : -2147483648 ≤ d ∧ d < 2147483648) : Runs m s { s with toCore := { s.toCore with ip := t } } :=
  Runs.instr (s := s) (ip := s.ip) (stk := s.stack) hfr hp (wf1 _ .i32 _ (by decide) (pat32_lt _)) rfl
    (ed_jmp_to m fr _ _ d t ht hlt hd)

theorem ed_jmp (m : Module) (fr : Frame) (c : Core) (is d : Nat) (h : is + d < 2147483648) :
    execData' m fr c is .JMP [pat32 (d : Int)] = ({ c with ip := is + d }, .running) :=
  ed_jmp_to m fr c is d (is + d) (by omega) h (by omega)

theorem ed_jmp_false (m : Module) (fr : Frame) (c : Core) (is d : Nat) (st : List Val) (b : Bool)
    (h : is + d < 2147483648) (hs : c.stack = st ++ [.bool b]) :
    execData' m fr c is .JMP_FALSE [pat32 (d : Int)] = ({ c with stack := st, ip := if b then c.ip else is + d }, .running) :=
  (ed_jmp_if m fr c is st d (is + d) false b hs (by omega) h (by omega)).trans (by cases b <;> rfl)

-- `cExpr` is defined by well-founded recursion: `rw [cExpr.eq_def]` unfolds it once without having Lean
-- generate its equation lemmas.

theorem cExpr_num (ce : CE) (cs : CS) (v : Int) : cExpr ce cs (.num v) = .ok (cs, [ins .PUSH_I64 [pat64 v]]) := by
  rw [cExpr.eq_def]

theorem cExpr_bool (ce : CE) (cs : CS) (b : Bool) : cExpr ce cs (.bool b) = .ok (cs, [ins .PUSH_BOOL [if b then 1 else 0]]) := by
  rw [cExpr.eq_def]

theorem cExpr_ident_local (ce : CE) (cs : CS) (x : String) (k : Nat) (h : cs.localFind x = some k) :
    cExpr ce cs (.ident x) = .ok (cs, [loadIdx .LOAD_LOCAL k]) := by
  rw [cExpr.eq_def]; simp only [h]

theorem cExpr_ident_global (ce : CE) (cs : CS) (x : String) (g : Nat) (h : cs.localFind x = none) (hg : ce.globalFind x = some g) :
    cExpr ce cs (.ident x) = .ok (cs, [loadIdx .LOAD_GLOBAL g]) := by
  rw [cExpr.eq_def]; simp only [h, hg]

theorem cExpr_un_err (ce : CE) (cs : CS) (op : TT) (a : Expr) (e : CgErr) (h : cExpr ce cs a = .error e) :
    cExpr ce cs (.prefixOp op [a]) = .error e := by
  rw [cExpr.eq_def]; simp only [h]

theorem cExpr_neg (ce : CE) (cs cs1 : CS) (a : Expr) (ca : List PI) (h : cExpr ce cs a = .ok (cs1, ca)) :
    cExpr ce cs (.prefixOp .T_MINUS [a]) = .ok (cs1, ca ++ [ins .NEG]) := by
  rw [cExpr.eq_def]; simp only [h]; rfl

theorem cExpr_not (ce : CE) (cs cs1 : CS) (a : Expr) (ca : List PI) (h : cExpr ce cs a = .ok (cs1, ca)) :
    cExpr ce cs (.prefixOp .T_NOT [a]) = .ok (cs1, ca ++ [ins .NOT]) := by
  rw [cExpr.eq_def]; simp only [h]; rfl

theorem cExpr_bin_err1 (ce : CE) (cs : CS) (op : TT) (a b : Expr) (e : CgErr) (h : cExpr ce cs a = .error e) :
    cExpr ce cs (.prefixOp op [a, b]) = .error e := by
  rw [cExpr.eq_def]; simp only [h]

theorem cExpr_bin_err2 (ce : CE) (cs cs1 : CS) (op : TT) (a b : Expr) (ca : List PI) (e : CgErr)
    (h : cExpr ce cs a = .ok (cs1, ca)) (h2 : cExpr ce cs1 b = .error e) :
    cExpr ce cs (.prefixOp op [a, b]) = .error e := by
  rw [cExpr.eq_def]; simp only [h, h2]

/-- the VM opcode of a strict binary operator -/
def binOpc : TT → Option Opc
  | .T_PLUS => some .ADD | .T_MINUS => some .SUB | .T_STAR => some .MUL | .T_SLASH => some .DIV
  | .T_PERCENT => some .MOD | .T_EQ => some .EQ | .T_NE => some .NE | .T_LT => some .LT
  | .T_LE => some .LE | .T_GT => some .GT | .T_GE => some .GE | _ => none

/-- inverse of `binOpc` (on the arithmetic opcodes it is `C02.semOp`) -/
def opTok : Opc → TT
  | .ADD => .T_PLUS | .SUB => .T_MINUS | .MUL => .T_STAR | .DIV => .T_SLASH | .MOD => .T_PERCENT
  | .EQ => .T_EQ | .NE => .T_NE | .LT => .T_LT | .LE => .T_LE | .GT => .T_GT | _ => .T_GE

theorem binOpc_inv {op : TT} {o : Opc} (h : binOpc op = some o) :
    op = opTok o ∧ ((o = .ADD ∨ o = .SUB ∨ o = .MUL ∨ o = .DIV ∨ o = .MOD) ∨
      (o = .EQ ∨ o = .NE ∨ o = .LT ∨ o = .LE ∨ o = .GT ∨ o = .GE)) := by
  cases op <;> simp only [binOpc, Option.some.injEq, reduceCtorEq] at h <;> subst h <;> simp [opTok]

theorem binOpc_not_logic (op : TT) (o : Opc) (ho : binOpc op = some o) : (op == TT.T_AND) = false ∧ (op == TT.T_OR) = false := by
  obtain ⟨rfl, h⟩ := binOpc_inv ho
  rcases h with (rfl | rfl | rfl | rfl | rfl) | (rfl | rfl | rfl | rfl | rfl | rfl) <;> exact ⟨rfl, rfl⟩

theorem cExpr_strict (ce : CE) (cs cs1 cs2 : CS) (op : TT) (o : Opc) (a b : Expr) (ca cb : List PI)
    (h : cExpr ce cs a = .ok (cs1, ca)) (h2 : cExpr ce cs1 b = .ok (cs2, cb)) (ho : binOpc op = some o) :
    cExpr ce cs (.prefixOp op [a, b]) = .ok (cs2, ca ++ cb ++ [ins o]) := by
  rw [cExpr.eq_def]; simp only [h, h2]
  obtain ⟨rfl, h⟩ := binOpc_inv ho
  rcases h with (rfl | rfl | rfl | rfl | rfl) | (rfl | rfl | rfl | rfl | rfl | rfl) <;> rfl

theorem cExpr_and (ce : CE) (cs cs1 cs2 : CS) (a b : Expr) (ca cb : List PI)
    (h : cExpr ce cs a = .ok (cs1, ca)) (h2 : cExpr ce cs1 b = .ok (cs2, cb)) :
    cExpr ce cs (.prefixOp .T_AND [a, b]) =
      .ok (cs2, ca ++ [ins .JMP_FALSE [pat32 (5 + codeSize cb + 1 + 5)]] ++ cb ++ [ins .CAST_BOOL, ins .JMP [pat32 (5 + 2)], ins .PUSH_BOOL [0]]) := by
  rw [cExpr.eq_def]; simp only [h, h2]; rfl

theorem cExpr_or (ce : CE) (cs cs1 cs2 : CS) (a b : Expr) (ca cb : List PI)
    (h : cExpr ce cs a = .ok (cs1, ca)) (h2 : cExpr ce cs1 b = .ok (cs2, cb)) :
    cExpr ce cs (.prefixOp .T_OR [a, b]) =
      .ok (cs2, ca ++ [ins .JMP_TRUE [pat32 (5 + codeSize cb + 1 + 5)]] ++ cb ++ [ins .CAST_BOOL, ins .JMP [pat32 (5 + 2)], ins .PUSH_BOOL [1]]) := by
  rw [cExpr.eq_def]; simp only [h, h2]; rfl

section inversion
variable {ce : CE} {cs cs' : CS} {op : TT} {a b : Expr} {code : List PI}

theorem cExpr_ident_inv {x : String} (h : cExpr ce cs (.ident x) = .ok (cs', code)) :
    cs' = cs ∧ ∃ o args, code = [ins o args] := by
  rw [cExpr.eq_def] at h
  dsimp only at h
  split at h
  · cases h; exact ⟨rfl, _, _, rfl⟩
  · split at h
    · cases h; exact ⟨rfl, _, _, rfl⟩
    · split at h
      · cases h; exact ⟨rfl, _, _, rfl⟩
      · cases h

theorem cExpr_un_inv (hop : op = .T_MINUS ∨ op = .T_NOT) (h : cExpr ce cs (.prefixOp op [a]) = .ok (cs', code)) :
    ∃ ca, cExpr ce cs a = .ok (cs', ca) ∧ code = ca ++ [ins (if op = .T_MINUS then .NEG else .NOT)] := by
  cases ha : cExpr ce cs a with
  | error e => rw [cExpr_un_err ce cs _ a e ha] at h; cases h
  | ok r =>
    obtain ⟨cs1, ca⟩ := r
    rcases hop with rfl | rfl
    · rw [cExpr_neg ce cs cs1 a ca ha] at h; cases h; exact ⟨ca, rfl, rfl⟩
    · rw [cExpr_not ce cs cs1 a ca ha] at h; cases h; exact ⟨ca, rfl, rfl⟩

theorem cExpr_bin_inv {r : CS × List PI} (h : cExpr ce cs (.prefixOp op [a, b]) = .ok r) :
    ∃ cs1 ca cs2 cb, cExpr ce cs a = .ok (cs1, ca) ∧ cExpr ce cs1 b = .ok (cs2, cb) := by
  cases ha : cExpr ce cs a with
  | error e => rw [cExpr_bin_err1 ce cs op a b e ha] at h; cases h
  | ok r1 =>
    cases hb : cExpr ce r1.1 b with
    | error e => rw [cExpr_bin_err2 ce cs r1.1 op a b r1.2 e ha hb] at h; cases h
    | ok r2 => exact ⟨_, _, _, _, rfl, hb⟩

theorem cExpr_strict_inv {o : Opc} (ho : binOpc op = some o) (h : cExpr ce cs (.prefixOp op [a, b]) = .ok (cs', code)) :
    ∃ cs1 ca cb, cExpr ce cs a = .ok (cs1, ca) ∧ cExpr ce cs1 b = .ok (cs', cb) ∧ code = ca ++ cb ++ [ins o] := by
  obtain ⟨cs1, ca, cs2, cb, ha, hb⟩ := cExpr_bin_inv h
  rw [cExpr_strict ce cs cs1 cs2 op o a b ca cb ha hb ho] at h
  cases h
  exact ⟨cs1, ca, cb, ha, hb, rfl⟩

theorem cExpr_logic_inv (isAnd : Bool) (h : cExpr ce cs (.prefixOp (if isAnd then .T_AND else .T_OR) [a, b]) = .ok (cs', code)) :
    ∃ cs1 ca cb, cExpr ce cs a = .ok (cs1, ca) ∧ cExpr ce cs1 b = .ok (cs', cb) ∧
      code = ca ++ [ins (if !isAnd then .JMP_TRUE else .JMP_FALSE) [pat32 (5 + codeSize cb + 1 + 5)]] ++ cb ++
        [ins .CAST_BOOL, ins .JMP [pat32 (5 + 2)], ins .PUSH_BOOL [if isAnd then 0 else 1]] := by
  obtain ⟨cs1, ca, cs2, cb, ha, hb⟩ := cExpr_bin_inv h
  cases isAnd
  · cases (cExpr_or ce cs cs1 cs2 a b ca cb ha hb).symm.trans h; exact ⟨cs1, ca, cb, ha, hb, rfl⟩
  · cases (cExpr_and ce cs cs1 cs2 a b ca cb ha hb).symm.trans h; exact ⟨cs1, ca, cb, ha, hb, rfl⟩

end inversion

section reference
variable {cfg : Sem.Cfg} {p : Program} {fuel : Nat} {loc : Sem.Locals} {g g' : Sem.GState} {w : Sem.SVal} {op : TT} {a b : Expr}

theorem evalExpr_fuel {e : Expr} {r : Sem.SVal × Sem.GState} (h : Sem.evalExpr cfg p fuel loc g e = .ok r) :
    ∃ f, fuel = f + 1 := by
  cases fuel with
  | zero => simp [Sem.evalExpr] at h
  | succ f => exact ⟨f, rfl⟩

theorem evalExpr_un_inv (h : Sem.evalExpr cfg p fuel loc g (.prefixOp op [a]) = .ok (w, g')) :
    ∃ f va, fuel = f + 1 ∧ Sem.evalExpr cfg p f loc g a = .ok (va, g') ∧
      ((op = .T_MINUS ∧ ∃ i, va = .int i ∧ w = .int (Sem.wrap64 (-i))) ∨ (op = .T_NOT ∧ ∃ b, va = .bool b ∧ w = .bool (!b))) := by
  obtain ⟨f, rfl⟩ := evalExpr_fuel h
  simp only [Sem.evalExpr] at h
  split at h
  · cases h
  · rename_i va g1 hea
    refine ⟨f, va, rfl, ?_⟩
    split at h <;> cases h
    · exact ⟨hea, .inl ⟨rfl, _, rfl, rfl⟩⟩
    · exact ⟨hea, .inr ⟨rfl, _, rfl, rfl⟩⟩

theorem evalExpr_strict_inv {o : Opc} (ho : binOpc op = some o)
    (h : Sem.evalExpr cfg p fuel loc g (.prefixOp op [a, b]) = .ok (w, g')) :
    ∃ f wa g1 wb, fuel = f + 1 ∧ Sem.evalExpr cfg p f loc g a = .ok (wa, g1) ∧ Sem.evalExpr cfg p f loc g1 b = .ok (wb, g') ∧
      Sem.binArith cfg op wa wb = .ok w := by
  obtain ⟨f, rfl⟩ := evalExpr_fuel h
  obtain ⟨hand, hor⟩ := binOpc_not_logic op o ho
  simp only [Sem.evalExpr, hand, hor, Bool.false_eq_true, if_false] at h
  split at h
  · cases h
  · rename_i wa g1 hea
    split at h
    · cases h
    · rename_i wb g2 heb
      split at h <;> cases h
      exact ⟨f, wa, g1, wb, rfl, hea, heb, ‹_›⟩

theorem evalExpr_logic_inv (isAnd : Bool)
    (h : Sem.evalExpr cfg p fuel loc g (.prefixOp (if isAnd then .T_AND else .T_OR) [a, b]) = .ok (w, g')) :
    ∃ f x g1, fuel = f + 1 ∧ Sem.evalExpr cfg p f loc g a = .ok (.bool x, g1) ∧
      ((x = !isAnd ∧ w = .bool x ∧ g' = g1) ∨
       (x = isAnd ∧ ∃ y, Sem.evalExpr cfg p f loc g1 b = .ok (.bool y, g') ∧ w = .bool y)) := by
  obtain ⟨f, rfl⟩ := evalExpr_fuel h
  -- the two operators have the same case tree, with `true` and `false` exchanged
  cases isAnd
  all_goals
    simp only [Bool.false_eq_true, if_false, if_true, Sem.evalExpr, beq_self_eq_true,
      show (TT.T_OR == TT.T_AND) = false from rfl] at h
    split at h
    · cases h
    · rename_i va g1 hea
      split at h
      · cases h
        exact ⟨f, _, _, rfl, hea, .inl ⟨rfl, rfl, rfl⟩⟩
      · split at h
        · cases h
        · rename_i vb g2 heb
          cases h
          exact ⟨f, _, _, rfl, hea, .inr ⟨rfl, vb, heb, rfl⟩⟩
        · cases h
      · cases h

end reference

theorem i64_pat64 (v : Int) : (i64 (pat64 v)).toInt = Sem.wrap64 v := by
  unfold i64 pat64
  rw [C02.wrap64_eq_bmod]
  have h : BitVec.ofNat 64 (v % 18446744073709551616).toNat = BitVec.ofInt 64 v :=
    BitVec.eq_of_toNat_eq (by simp; omega)
  rw [h, BitVec.toInt_ofInt]

/-- a reference value and the VM value that represents it (the fragment's values are scalars) -/
inductive VRel : Sem.SVal → Val → Prop
  | int (x : I64) : VRel (.int x.toInt) (.int x)
  | bool (b : Bool) : VRel (.bool b) (.bool b)

theorem VRel.scalar {w : Sem.SVal} {v : Val} (h : VRel w v) : Val.scalar v = true := by
  cases h <;> rfl

theorem VRel.inert {w : Sem.SVal} {v : Val} (h : VRel w v) : Val.inert v := Val.scalar.inert h.scalar

theorem VRel.of_int {i : Int} {v : Val} (h : VRel (.int i) v) : ∃ x : I64, v = .int x ∧ i = x.toInt := by
  cases h with
  | int x => exact ⟨x, rfl, rfl⟩

theorem VRel.of_bool {b : Bool} {v : Val} (h : VRel (.bool b) v) : v = .bool b := by
  cases h; rfl

/-- every variable the reference can see is a scalar stored in the slot the generator resolves it to
    (`k < 65536`: a u16 operand of LOAD_LOCAL / STORE_LOCAL; `base + k < 2^32`: the handlers add in uint32) -/
structure EnvOK (ce : CE) (cs : CS) (loc : Sem.Locals) (g : Sem.GState) (base : Nat) (stack globals : List Val) : Prop where
  locals : ∀ x w, Sem.lookup? loc x = some w →
    ∃ k v, cs.localFind x = some k ∧ stack[base + k]? = some v ∧ VRel w v ∧ k < 65536 ∧ base + k < 4294967296
  globals : ∀ x w, Sem.lookup? loc x = none → Sem.lookup? g.globals x = some w →
    cs.localFind x = none ∧ ∃ idx, ce.globalFind x = some idx ∧ idx < Gen.vmMaxGlobals ∧ VRel w (globals.getD idx .void)

theorem EnvOK.push {ce : CE} {cs : CS} {loc : Sem.Locals} {g : Sem.GState} {base : Nat} {stack globals : List Val}
    (h : EnvOK ce cs loc g base stack globals) (extra : List Val) : EnvOK ce cs loc g base (stack ++ extra) globals := by
  refine ⟨?_, h.globals⟩
  intro x w hx
  obtain ⟨k, v, h1, h2, h3, h4, h5⟩ := h.locals x w hx
  refine ⟨k, v, h1, ?_, h3, h4, h5⟩
  rw [List.getElem?_append_left (List.getElem?_eq_some_iff.mp h2).1]; exact h2

/-- what a strict binary operator does to two represented operands, on both sides -/
theorem strict_step (op : TT) (o : Opc) (ho : binOpc op = some o) (wa wb w : Sem.SVal) (va vb : Val)
    (h1 : VRel wa va) (h2 : VRel wb vb) (hb : Sem.binArith Sem.vmCfg op wa wb = .ok w) :
    ∃ v, VRel w v ∧ Opc.isControl o = false ∧ Instr.wf ⟨o.toByte, []⟩ ∧
      ∀ (m : Module) (fr : Frame) (c : Core) (is : Nat) (st : List Val), c.stack = st ++ [va, vb] →
        execData' m fr c is o [] = ({ c with stack := st ++ [v] }, .running) := by
  obtain ⟨rfl, har | hcm⟩ := binOpc_inv ho
  · -- arithmetic: the reference accepts two integers (or two strings, which `VRel` does not relate)
    have hdat : opTok o = C02.semOp o ∧ Opc.isControl o = false ∧ Instr.wf ⟨o.toByte, []⟩ := by
      rcases har with rfl | rfl | rfl | rfl | rfl <;> exact ⟨rfl, rfl, wf0 _ (by decide)⟩
    cases h1 <;> cases h2
    · rename_i x y
      have := C02.arith_agree o har x y
      rw [← hdat.1, hb] at this
      cases this
      exact ⟨_, .int _, hdat.2.1, hdat.2.2, fun m fr c is st h => ed_arith m fr c is st o har x y h⟩
    all_goals rcases har with rfl | rfl | rfl | rfl | rfl <;> cases hb
  · -- comparisons: two integers, for `==` and `!=` also two booleans
    have hdat : Opc.isControl o = false ∧ Instr.wf ⟨o.toByte, []⟩ := by
      rcases hcm with rfl | rfl | rfl | rfl | rfl | rfl <;> exact ⟨rfl, wf0 _ (by decide)⟩
    cases h1 <;> cases h2
    · rename_i x y
      have hw : w = .bool (cmpInt o x.toInt y.toInt) := by
        rcases hcm with rfl | rfl | rfl | rfl | rfl | rfl <;> cases hb <;> rfl
      exact hw ▸ ⟨_, .bool _, hdat.1, hdat.2, fun m fr c is st h => ed_cmp_int m fr c is st o hcm x y h⟩
    · rcases hcm with rfl | rfl | rfl | rfl | rfl | rfl <;> cases hb
    · rcases hcm with rfl | rfl | rfl | rfl | rfl | rfl <;> cases hb
    · rename_i x y
      rcases hcm with rfl | rfl | rfl | rfl | rfl | rfl <;> cases hb
      · exact ⟨_, .bool _, rfl, hdat.2, fun m fr c is st h => ed_eq_bool m fr c is st x y h⟩
      · exact ⟨_, .bool _, rfl, hdat.2, fun m fr c is st h => ed_ne_bool m fr c is st x y h⟩

/-- the pure expression fragment: integer and boolean literals, variables, unary minus and `not`,
    the eleven strict binary operators, short-circuit `and` / `or` -/
inductive PureE : Expr → Prop
  | num (v : Int) : PureE (.num v)
  | bool (b : Bool) : PureE (.bool b)
  | ident (x : String) : PureE (.ident x)
  | neg (a : Expr) : PureE a → PureE (.prefixOp .T_MINUS [a])
  | not (a : Expr) : PureE a → PureE (.prefixOp .T_NOT [a])
  | strict (op : TT) (o : Opc) (a b : Expr) : binOpc op = some o → PureE a → PureE b → PureE (.prefixOp op [a, b])
  | and (a b : Expr) : PureE a → PureE b → PureE (.prefixOp .T_AND [a, b])
  | or (a b : Expr) : PureE a → PureE b → PureE (.prefixOp .T_OR [a, b])

/-- no loop placeholder (`.brk` / `.cont`) in the list: then `resolve` changes nothing, and only such lists encode -/
def noPH : List PI → Bool
  | [] => true
  | .i _ :: r => noPH r
  | _ :: _ => false

theorem noPH_append (a b : List PI) : noPH (a ++ b) = (noPH a && noPH b) := by
  induction a with
  | nil => simp [noPH]
  | cons x r ih => cases x <;> simp [noPH, ih]

theorem cExpr_pure_logic {ce : CE} {a b : Expr} (isAnd : Bool)
    (iha : ∀ cs cs' code, cExpr ce cs a = .ok (cs', code) → cs' = cs ∧ noPH code = true)
    (ihb : ∀ cs cs' code, cExpr ce cs b = .ok (cs', code) → cs' = cs ∧ noPH code = true) (cs cs' : CS) (code : List PI)
    (h : cExpr ce cs (.prefixOp (if isAnd then .T_AND else .T_OR) [a, b]) = .ok (cs', code)) : cs' = cs ∧ noPH code = true := by
  obtain ⟨cs1, ca, cb, ha, hb, rfl⟩ := cExpr_logic_inv isAnd h
  obtain ⟨rfl, na⟩ := iha cs cs1 ca ha
  obtain ⟨rfl, nb⟩ := ihb cs1 cs' cb hb
  exact ⟨rfl, by rw [noPH_append, noPH_append, noPH_append, na, nb]; rfl⟩

theorem cExpr_pure (ce : CE) (e : Expr) (hp : PureE e) :
    ∀ (cs cs' : CS) (code : List PI), cExpr ce cs e = .ok (cs', code) → cs' = cs ∧ noPH code = true := by
  induction hp with
  | num v => intro cs cs' code h; cases (cExpr_num ce cs v).symm.trans h; exact ⟨rfl, rfl⟩
  | bool b => intro cs cs' code h; cases (cExpr_bool ce cs b).symm.trans h; exact ⟨rfl, rfl⟩
  | ident x => intro cs cs' code h; obtain ⟨rfl, o, args, rfl⟩ := cExpr_ident_inv h; exact ⟨rfl, rfl⟩
  | neg a _ ih | not a _ ih =>
    intro cs cs' code h
    obtain ⟨ca, ha, rfl⟩ := cExpr_un_inv (by decide) h
    obtain ⟨rfl, n⟩ := ih cs cs' ca ha
    exact ⟨rfl, by rw [noPH_append, n]; rfl⟩
  | strict op o a b ho _ _ iha ihb =>
    intro cs cs' code h
    obtain ⟨cs1, ca, cb, ha, hb, rfl⟩ := cExpr_strict_inv ho h
    obtain ⟨rfl, na⟩ := iha cs cs1 ca ha
    obtain ⟨rfl, nb⟩ := ihb cs1 cs' cb hb
    exact ⟨rfl, by rw [noPH_append, noPH_append, na, nb]; rfl⟩
  | and a b _ _ iha ihb => exact cExpr_pure_logic true iha ihb
  | or a b _ _ iha ihb => exact cExpr_pure_logic false iha ihb

theorem cExpr_pure_cs (ce : CE) (e : Expr) (hp : PureE e) :
    ∀ (cs cs' : CS) (code : List PI), cExpr ce cs e = .ok (cs', code) → cs' = cs :=
  fun cs cs' code h => (cExpr_pure ce e hp cs cs' code h).1

/-- running the code `c` placed at `s.ip` pushes a representation of `w` and changes nothing else -/
def Sim (m : Module) (s : VmState) (c : List PI) (w : Sem.SVal) : Prop :=
  ∃ v, VRel w v ∧ Runs m s (advS s (s.ip + codeSize c) (s.stack ++ [v]))

/-- `g' = g`: the fragment has no calls, so a statement's proof keeps its `EnvOK` across the evaluation -/
def SimE (m : Module) (ce : CE) (p : Program) (e : Expr) : Prop :=
  ∀ (cs cs' : CS) (code : List PI) (fuel : Nat) (loc : Sem.Locals) (g g' : Sem.GState) (w : Sem.SVal)
    (s : VmState) (fr : Frame) (frs : List Frame),
    cExpr ce cs e = .ok (cs', code) → Sem.evalExpr Sem.vmCfg p fuel loc g e = .ok (w, g') →
    s.frames = fr :: frs → Placed m s.curFn s.ip code → EnvOK ce cs loc g fr.stackBase s.stack s.globals →
    g' = g ∧ Sim m s code w

-- values already pushed do not disturb `EnvOK`
theorem SimE.at {m : Module} {ce : CE} {p : Program} {e : Expr} (h : SimE m ce p e)
    {cs cs' : CS} {code : List PI} {fuel : Nat} {loc : Sem.Locals} {g g' : Sem.GState} {w : Sem.SVal}
    {s : VmState} {fr : Frame} {frs : List Frame} {ip : Nat} (extra : List Val)
    (hc : cExpr ce cs e = .ok (cs', code)) (hs : Sem.evalExpr Sem.vmCfg p fuel loc g e = .ok (w, g'))
    (hfr : s.frames = fr :: frs) (hp : Placed m s.curFn ip code) (henv : EnvOK ce cs loc g fr.stackBase s.stack s.globals) :
    g' = g ∧ ∃ v, VRel w v ∧
      Runs m (advS s ip (s.stack ++ extra)) (advS s (ip + codeSize code) (s.stack ++ (extra ++ [v]))) := by
  simpa only [Sim, advS_ip, advS_stack, advS_advS, List.append_assoc] using
    h cs cs' code fuel loc g g' w (advS s ip (s.stack ++ extra)) fr frs hc hs hfr hp (henv.push extra)

theorem Sim.push1 {m : Module} {s : VmState} {fr : Frame} {frs : List Frame} {op : Opc} {args : List Nat} {w : Sem.SVal} {v : Val}
    (hv : VRel w v) (hfr : s.frames = fr :: frs) (hp : Placed m s.curFn s.ip [ins op args])
    (hwf : Instr.wf ⟨op.toByte, args⟩) (hctl : Opc.isControl op = false)
    (hx : ∀ c : Core, c.stack = s.stack → c.globals = s.globals → execData' m fr c s.ip op args = (c.push v, .running)) :
    Sim m s [ins op args] w :=
  ⟨v, hv, Runs.instr (s := s) hfr hp hwf hctl (hx _ rfl rfl)⟩

section sims
variable (m : Module) (ce : CE) (p : Program)

theorem sim_lit {e : Expr} {op : Opc} {arg : Nat} {w : Sem.SVal} {v : Val} (hc : ∀ cs, cExpr ce cs e = .ok (cs, [ins op [arg]]))
    (hs : ∀ f loc g, Sem.evalExpr Sem.vmCfg p (f + 1) loc g e = .ok (w, g)) (hv : VRel w v)
    (hwf : Instr.wf ⟨op.toByte, [arg]⟩) (hctl : Opc.isControl op = false)
    (hx : ∀ fr c is, execData' m fr c is op [arg] = (c.push v, .running)) : SimE m ce p e := by
  intro cs cs' code fuel loc g g' w' s fr frs hc' hs' hfr hp _
  cases (hc cs).symm.trans hc'
  obtain ⟨f, rfl⟩ := evalExpr_fuel hs'
  cases (hs f loc g).symm.trans hs'
  exact ⟨rfl, Sim.push1 hv hfr hp hwf hctl (fun c _ _ => hx fr c _)⟩

theorem sim_num (v : Int) : SimE m ce p (.num v) :=
  sim_lit m ce p (cExpr_num ce · v) (fun _ _ _ => rfl) (i64_pat64 v ▸ .int _) (wf1 _ .i64 _ (by decide) (pat64_lt v)) rfl
    (fun _ _ _ => rfl)

theorem sim_bool (b : Bool) : SimE m ce p (.bool b) :=
  sim_lit m ce p (cExpr_bool ce · b) (fun _ _ _ => rfl) (.bool b) (wf1 _ .u8 _ (by decide) (by cases b <;> decide)) rfl
    (fun _ _ _ => by cases b <;> rfl)

theorem sim_ident (x : String) : SimE m ce p (.ident x) := by
  intro cs cs' code fuel loc g g' w s fr frs hc hs hfr hp henv
  obtain ⟨f, rfl⟩ := evalExpr_fuel hs
  simp only [Sem.evalExpr] at hs
  split at hs
  · rename_i wl hl
    cases hs
    obtain ⟨k, v, h1, h2, h3, h4, h5⟩ := henv.locals x _ hl
    cases (cExpr_ident_local ce cs x k h1).symm.trans hc
    exact ⟨rfl, Sim.push1 h3 hfr hp (wf1 _ .u16 _ (by decide) (by show k < 256 ^ 2; omega)) rfl
      (fun c h _ => ed_load_local m fr c _ k v h5 (h ▸ h2) h3.inert)⟩
  · rename_i hl
    split at hs
    · rename_i wg hg
      cases hs
      obtain ⟨h1, idx, h2, h3, h4⟩ := henv.globals x _ hl hg
      cases (cExpr_ident_global ce cs x idx h1 h2).symm.trans hc
      have : Gen.vmMaxGlobals ≤ 4294967296 := by decide
      exact ⟨rfl, Sim.push1 h4 hfr hp (wf1 _ .u32 _ (by decide) (by show idx < 256 ^ 4; omega)) rfl
        (fun c _ hg => ed_load_global m fr c _ idx _ h3 (hg ▸ rfl) h4.inert)⟩
    · cases hs

theorem sim_un (op : TT) (hop : op = .T_MINUS ∨ op = .T_NOT) (a : Expr)
    (iha : SimE m ce p a) : SimE m ce p (.prefixOp op [a]) := by
  intro cs cs' code fuel loc g g' w s fr frs hc hs hfr hp henv
  obtain ⟨ca, hca, rfl⟩ := cExpr_un_inv hop hc
  obtain ⟨f, va, rfl, hea, hw⟩ := evalExpr_un_inv hs
  obtain ⟨hpa, hpo⟩ := hp.append
  obtain ⟨rfl, v, hv, hrun⟩ := iha cs cs' ca f loc g g' va s fr frs hca hea hfr hpa henv
  rcases hw with ⟨rfl, i, rfl, rfl⟩ | ⟨rfl, b, rfl, rfl⟩
  · obtain ⟨x, rfl, rfl⟩ := hv.of_int
    refine ⟨rfl, .int (-x), C02.neg_agree_sem x ▸ .int _, ?_⟩
    rw [codeSize_append, ← Nat.add_assoc]
    exact hrun.trans (Runs.instr hfr hpo (wf0 _ (by decide)) rfl (ed_neg m fr _ _ s.stack x rfl))
  · cases hv.of_bool
    refine ⟨rfl, .bool (!b), .bool _, ?_⟩
    rw [codeSize_append, ← Nat.add_assoc]
    exact hrun.trans (Runs.instr hfr hpo (wf0 _ (by decide)) rfl (ed_not m fr _ _ s.stack b rfl))

theorem sim_strict (op : TT) (o : Opc) (ho : binOpc op = some o) (a b : Expr) (hpa : PureE a)
    (iha : SimE m ce p a) (ihb : SimE m ce p b) : SimE m ce p (.prefixOp op [a, b]) := by
  intro cs cs' code fuel loc g g' w s fr frs hc hs hfr hp henv
  obtain ⟨cs1, ca, cb, hca, hcb, rfl⟩ := cExpr_strict_inv ho hc
  obtain ⟨f, wa, g1, wb, rfl, hea, heb, hbin⟩ := evalExpr_strict_inv ho hs
  obtain ⟨hpab, hpo⟩ := hp.append
  obtain ⟨hpla, hplb⟩ := hpab.append
  obtain rfl := cExpr_pure_cs ce a hpa cs cs1 ca hca
  obtain ⟨rfl, va, hva, hrun1⟩ := iha cs1 cs1 ca f loc g g1 wa s fr frs hca hea hfr hpla henv
  obtain ⟨rfl, vb, hvb, hrun2⟩ := ihb.at [va] hcb heb hfr hplb henv
  obtain ⟨v, hv, hctl, hwf, hex⟩ := strict_step op o ho wa wb w va vb hva hvb hbin
  refine ⟨rfl, v, hv, ?_⟩
  simp only [codeSize_append, ← Nat.add_assoc] at hpo ⊢
  exact hrun1.trans (hrun2.trans (Runs.instr hfr hpo hwf hctl (hex m fr _ _ s.stack rfl)))

theorem sim_logic (isAnd : Bool) (a b : Expr) (hpa : PureE a)
    (iha : SimE m ce p a) (ihb : SimE m ce p b) : SimE m ce p (.prefixOp (if isAnd then .T_AND else .T_OR) [a, b]) := by
  intro cs cs' code fuel loc g g' w s fr frs hc hs hfr hp henv
  obtain ⟨cs1, ca, cb, hca, hcb, rfl⟩ := cExpr_logic_inv isAnd hc
  obtain ⟨f, x, g1, rfl, hea, hw⟩ := evalExpr_logic_inv isAnd hs
  obtain rfl := cExpr_pure_cs ce a hpa cs cs1 ca hca
  -- ca | jump to the constant if `a` decides | cb | CAST_BOOL | JMP over the constant | PUSH_BOOL constant
  have hbound := hp.bound
  obtain ⟨hp123, hpt⟩ := hp.append
  obtain ⟨hp12, hpb⟩ := hp123.append
  obtain ⟨hpa', hpj⟩ := hp12.append
  obtain ⟨hpc, hpmp⟩ := Placed.append (a := [ins .CAST_BOOL]) hpt
  obtain ⟨hpm, hpp⟩ := Placed.append (a := [ins .JMP [pat32 (5 + 2)]]) hpmp
  have sj : ∀ args, codeSize [ins (if !isAnd then .JMP_TRUE else .JMP_FALSE) args] = 5 := fun _ => by cases isAnd <;> rfl
  have st : ∀ k, codeSize [ins .CAST_BOOL, ins .JMP [pat32 (5 + 2)], ins .PUSH_BOOL [k]] = 1 + 5 + 2 := fun _ => rfl
  have sc : codeSize [ins .CAST_BOOL] = 1 := rfl
  simp only [Sim, codeSize_append, sj, st, sc, codeSize_jmp, ← Nat.add_assoc] at hbound hpb hpj hpc hpm hpp ⊢
  obtain ⟨rfl, va, hva, hrun1⟩ := iha cs1 cs1 ca f loc g g1 (.bool x) s fr frs hca hea hfr hpa' henv
  cases hva.of_bool
  have hjump : Runs m (advS s (s.ip + codeSize ca) (s.stack ++ [.bool x]))
      (advS s (if x = !isAnd then s.ip + codeSize ca + 5 + codeSize cb + 1 + 5 else s.ip + codeSize ca + 5) s.stack) := by
    refine Runs.instr hfr hpj (wf1 _ .i32 _ (by cases isAnd <;> decide) (pat32_lt _)) (by cases isAnd <;> rfl) ?_
    rw [ed_jmp_if m fr _ _ s.stack _ (s.ip + codeSize ca + 5 + codeSize cb + 1 + 5) _ x rfl (by omega) (by omega) (by omega), sj]
  rcases hw with ⟨hx, rfl, rfl⟩ | ⟨hx, y, heb, rfl⟩
  · -- decided: jump to the constant
    refine ⟨rfl, .bool x, .bool x, hrun1.trans (hjump.trans ?_)⟩
    rw [if_pos hx]
    have hk : x = ((if isAnd then 0 else 1 : Nat) != 0) := by subst hx; cases isAnd <;> rfl
    rw [hk]
    exact Runs.instr hfr hpp (wf1 _ .u8 _ (by decide) (by cases isAnd <;> decide)) rfl (ed_push_bool ..)
  · -- not decided: evaluate `b`, normalise, jump over the constant
    have hne : ¬ x = !isAnd := by subst hx; cases x <;> simp
    rw [if_neg hne] at hjump
    obtain ⟨rfl, vb, hvb, hrun2⟩ := ihb.at [] hcb heb hfr hpb henv
    cases hvb.of_bool
    rw [List.append_nil] at hrun2
    refine ⟨rfl, .bool y, .bool y, hrun1.trans (hjump.trans (hrun2.trans ?_))⟩
    have hcast : Runs m (advS s (s.ip + codeSize ca + 5 + codeSize cb) (s.stack ++ [.bool y]))
        (advS s (s.ip + codeSize ca + 5 + codeSize cb + 1) (s.stack ++ [.bool y])) :=
      Runs.instr hfr hpc (wf0 _ (by decide)) rfl (ed_cast_bool m fr _ _ s.stack y rfl)
    exact hcast.trans (Runs.jmp (s := advS s (s.ip + codeSize ca + 5 + codeSize cb + 1) (s.stack ++ [.bool y])) _ hfr hpm
      (by simp only [advS_ip]; omega) (by omega) (by omega))

end sims

theorem cExpr_sim (m : Module) (ce : CE) (p : Program) (e : Expr) (hp : PureE e) : SimE m ce p e := by
  induction hp with
  | num v => exact sim_num m ce p v
  | bool b => exact sim_bool m ce p b
  | ident x => exact sim_ident m ce p x
  | neg a _ ih => exact sim_un m ce p _ (.inl rfl) a ih
  | not a _ ih => exact sim_un m ce p _ (.inr rfl) a ih
  | strict op o a b ho ha _ iha ihb => exact sim_strict m ce p op o ho a b ha iha ihb
  | and a b ha _ iha ihb => exact sim_logic m ce p true a b ha iha ihb
  | or a b ha _ iha ihb => exact sim_logic m ce p false a b ha iha ihb

end NanoVerif
