/-
Every parser keeps its position inside the section, the section lies inside the file, and no
32-bit sum wraps while the file is below 4 GiB - 64 KiB.
-/
import NanoVerif.Lemmas.NvmSer
namespace NanoVerif

/-- the loader result is not the `.oob` error (no read outside the buffer happened) -/
def NoOob {α : Type} (x : Except LoadErr α) : Prop := x ≠ .error .oob

theorem NoOob.ok {α : Type} (a : α) : NoOob (.ok a : Except LoadErr α) := nofun

theorem NoOob.reject {α : Type} : NoOob (.error .reject : Except LoadErr α) := nofun

theorem NoOob.bind {α β : Type} {x : Except LoadErr α} {f : α → Except LoadErr β}
    (hx : NoOob x) (hf : ∀ a, NoOob (f a)) : NoOob (x >>= f) := by
  match x, hx with
  | .ok a, _ => exact hf a
  | .error .reject, _ => exact .reject
  | .error .oob, hx => exact absurd rfl hx

theorem NoOob.ite {α : Type} {c : Prop} [Decidable c] {x y : Except LoadErr α} (hx : c → NoOob x)
    (hy : ¬ c → NoOob y) : NoOob (if c then x else y) := by
  split
  · exact hx ‹_›
  · exact hy ‹_›

theorem NoOob.rdBytes {β : Type} {data : Bytes} {off n : Nat} {f : Bytes → Except LoadErr β}
    (h : off + n ≤ data.length) (hf : ∀ v, v.length = n → NoOob (f v)) :
    NoOob (NanoVerif.rdBytes data off n >>= f) := by
  unfold NanoVerif.rdBytes slice?
  rw [if_pos h]
  exact hf _ (List.length_take_of_le (by simp; omega))

theorem NoOob.rd {β : Type} {data : Bytes} {off n : Nat} {f : Nat → Except LoadErr β} (h : off + n ≤ data.length)
    (hf : ∀ v, v < 256 ^ n → NoOob (f v)) : NoOob (NanoVerif.rd data off n >>= f) := by
  rw [rd_eq, bind_map_left]; exact .rdBytes h fun v hv => hf _ (hv ▸ leVal_lt v)

theorem parseStrings_safe (data : Bytes) (base secSize : Nat) (hb : base + secSize ≤ data.length)
    (hs : secSize + 4 < 4294967296) (fuel pos : Nat) (ss : List Bytes) (hp : pos ≤ secSize) :
    NoOob (parseStrings data base secSize fuel pos ss) := by
  induction fuel generalizing pos ss with
  | zero => exact .ok _
  | succ fuel ih =>
    simp only [parseStrings]
    refine .ite (fun hc => ?_) fun _ => .ok _
    rw [u32_of_lt (by omega)] at hc
    exact .rd (by omega) fun slen _ => .ite (fun _ => .ok _) fun _ =>
      .rdBytes (by omega) fun _ _ => ih _ _ (by omega)

theorem parseFunctions_safe (data : Bytes) (base secSize : Nat) (hb : base + secSize ≤ data.length)
    (hs : secSize + 18 < 4294967296)
    (fuel pos : Nat) (fs : List FnEntry) (hp : pos ≤ secSize) :
    NoOob (parseFunctions data base secSize fuel pos fs) := by
  induction fuel generalizing pos fs with
  | zero => exact .ok _
  | succ fuel ih =>
    simp only [parseFunctions]
    unfold Gen.functionEntrySize
    refine .ite (fun hc => ?_) fun _ => .ok _
    rw [u32_of_lt (by omega)] at hc
    exact .rd (by omega) fun _ _ => .rd (by omega) fun _ _ => .rd (by omega) fun _ _ =>
      .rd (by omega) fun _ _ => .rd (by omega) fun _ _ => .rd (by omega) fun _ _ => ih _ _ (by omega)

theorem parseDebug_safe (data : Bytes) (base secSize : Nat) (hb : base + secSize ≤ data.length)
    (hs : secSize + 8 < 4294967296)
    (fuel pos : Nat) (ds : List DebugEntry) (hp : pos ≤ secSize) :
    NoOob (parseDebug data base secSize fuel pos ds) := by
  induction fuel generalizing pos ds with
  | zero => exact .ok _
  | succ fuel ih =>
    simp only [parseDebug]
    unfold Gen.debugEntrySize
    refine .ite (fun hc => ?_) fun _ => .ok _
    rw [u32_of_lt (by omega)] at hc
    exact .rd (by omega) fun _ _ => .rd (by omega) fun _ _ => ih _ _ (by omega)

/-- 65600 covers the 11 fixed bytes of an entry and its 16-bit parameter count -/
theorem parseImports_safe (data : Bytes) (base secSize : Nat) (hb : base + secSize ≤ data.length)
    (hs : secSize + 65600 < 4294967296)
    (fuel pos : Nat) (is : List ImportEntry) (hp : pos ≤ secSize) :
    NoOob (parseImports data base secSize fuel pos is) := by
  induction fuel generalizing pos is with
  | zero => exact .ok _
  | succ fuel ih =>
    simp only [parseImports]
    unfold Gen.importEntryBaseSize
    refine .ite (fun hc => ?_) fun _ => .ok _
    rw [u32_of_lt (by omega)] at hc
    refine .rd (by omega) fun _ _ => .rd (by omega) fun _ _ => .rd (by omega) fun pc hpc =>
      .rd (by omega) fun _ _ => .ite (fun _ => .ok _) fun hsl => ?_
    rw [u32_of_lt (by omega)] at hsl
    exact .rdBytes (by omega) fun _ _ => ih _ _ (by omega)

theorem loadSection_safe (data : Bytes) (hsz : data.length + 65600 < 4294967296) (m : Module) (e i : Nat)
    (hi : Gen.headerSize + (i + 1) * Gen.sectionEntrySize ≤ data.length) :
    NoOob (loadSection data m e i) := by
  unfold loadSection
  unfold Gen.sectionEntrySize at hi ⊢
  refine .rd (by omega) fun ty _ => .rd (by omega) fun off _ => .rd (by omega) fun sz _ =>
    .ite (fun _ => .reject) fun hb => ?_
  simp only [Bool.or_eq_true, decide_eq_true_eq, not_or, Nat.not_lt] at hb
  have hin : off + sz ≤ data.length := by omega
  exact .ite (fun _ => .bind (parseStrings_safe data off sz hin (by omega) _ _ _ (by omega)) fun _ => .ok _) fun _ =>
    .ite (fun _ => .rdBytes hin fun _ _ => .ok _) fun _ =>
    .ite (fun _ => .bind (parseFunctions_safe data off sz hin (by omega) _ _ _ (by omega)) fun _ => .ok _) fun _ =>
    .ite (fun _ => .bind (parseDebug_safe data off sz hin (by omega) _ _ _ (by omega)) fun _ => .ok _) fun _ =>
    .ite (fun _ => .bind (parseImports_safe data off sz hin (by omega) _ _ _ (by omega)) fun _ => .ok _) fun _ => .ok _

theorem loadSections_safe (data : Bytes) (hsz : data.length + 65600 < 4294967296) (n i : Nat) (m : Module) (e : Nat)
    (hi : Gen.headerSize + (i + n) * Gen.sectionEntrySize ≤ data.length) :
    NoOob (loadSections data n i m e) := by
  unfold Gen.sectionEntrySize at hi
  induction n generalizing i m e with
  | zero => exact .ok _
  | succ n ih =>
    simp only [loadSections]
    exact .bind (loadSection_safe data hsz _ _ _ (by unfold Gen.sectionEntrySize; omega)) fun _ => ih _ _ _ (by omega)

end NanoVerif
