import NanoVerif.Lemmas.HeapInv
import NanoVerif.Lemmas.ListAux
namespace NanoVerif

/-! ### kinds: a value's variant agrees with the object at its address -/

-- `Obj.kind` and `Val.okind` must number the constructors alike; `.hmap` has an address but no kind yet (hashmaps are
-- `unsupported`), so `KindOk h (.hmap a)` fails for every live `a` until both get a seventh case.
def Obj.kind : Obj → Nat
  | .str _ => 0 | .arr .. => 1 | .struct .. => 2 | .union .. => 3 | .tuple _ => 4 | .clos .. => 5

def Val.okind : Val → Option Nat
  | .str _ => some 0 | .arr _ => some 1 | .struct _ => some 2 | .union _ => some 3 | .tuple _ => some 4
  | .clos _ => some 5 | _ => none

def KindOk (h : Heap) (v : Val) : Prop :=
  ∀ a c, v.addr? = some a → (a, c) ∈ h.cells → v.okind = some c.obj.kind

def Kinded (vals : List Val) (h : Heap) : Prop :=
  (∀ v ∈ vals, KindOk h v) ∧ (∀ p ∈ h.cells, ∀ v ∈ p.2.obj.kids, KindOk h v)

theorem KindOk.scalar (h : Heap) (v : Val) (hv : v.addr? = none) : KindOk h v := by
  intro a c ha; rw [hv] at ha; cases ha

/-! ### the cell at an address: `(a, c) ∈ h.cells`, `h.get? a = some c`, `h.obj? a = some c.obj` -/

theorem obj?_eq {h : Heap} {a : Nat} {o : Obj} (ho : h.obj? a = some o) : ∃ c, h.get? a = some c ∧ c.obj = o :=
  Option.map_eq_some_iff.mp ho

theorem obj?_of_get? {h : Heap} {a : Nat} {c : Cell} (hg : h.get? a = some c) : h.obj? a = some c.obj := by
  rw [Heap.obj?, hg]; rfl

theorem obj?_key {h : Heap} {a : Nat} {o : Obj} (ho : h.obj? a = some o) : a ∈ h.keys :=
  let ⟨_, hg, _⟩ := obj?_eq ho
  Heap.mem_keys (Heap.get?_some_mem hg)

/-- `l'` holds no reference more often than `l` does -/
def LeVals (l' l : List Val) : Prop := ∀ v : Val, v.addr? ≠ none → l'.count v ≤ l.count v

theorem countP_le_of_count_le {α : Type} [BEq α] [LawfulBEq α] (p : α → Bool) :
    ∀ {l' l : List α}, (∀ v, p v → l'.count v ≤ l.count v) → l'.countP p ≤ l.countP p
  | [], _, _ => Nat.zero_le _
  | v :: r, l, h => by
    by_cases hp : p v
    · have hv : v ∈ l := List.count_pos_iff.mp (by have := h v hp; rw [List.count_cons_self] at this; omega)
      -- take one `v` out of both lists
      have ih := countP_le_of_count_le p (l' := r) (l := l.erase v) fun w hw => by
        have := h w hw
        rw [List.count_cons] at this; rw [List.count_erase]; omega
      rw [(List.perm_cons_erase hv).countP_eq, List.countP_cons_of_pos hp, List.countP_cons_of_pos hp]
      omega
    · rw [List.countP_cons_of_neg hp]
      exact countP_le_of_count_le p fun w hw => Nat.le_trans List.count_le_count_cons (h w hw)

theorem LeVals.refs {l' l : List Val} (h : LeVals l' l) (x : Nat) : (refsOf l').count x ≤ (refsOf l).count x := by
  rw [refsOf, refsOf, List.count_filterMap, List.count_filterMap]
  exact countP_le_of_count_le _ fun v hv => h v fun hn => by simp [hn] at hv

theorem LeVals.mem {l' l : List Val} (h : LeVals l' l) (v : Val) (hv : v.addr? ≠ none) (hm : v ∈ l') : v ∈ l :=
  List.count_pos_iff.mp (Nat.lt_of_lt_of_le (List.count_pos_iff.mpr hm) (h v hv))

theorem LeVals.refl (l : List Val) : LeVals l l := fun _ _ => Nat.le_refl _

theorem LeVals.trans {a b c : List Val} (h1 : LeVals a b) (h2 : LeVals b c) : LeVals a c :=
  fun v hv => Nat.le_trans (h1 v hv) (h2 v hv)

theorem count_scalar_list (l : List Val) (hl : ∀ w ∈ l, w.addr? = none) (v : Val) (hv : v.addr? ≠ none) : l.count v = 0 :=
  List.count_eq_zero.mpr fun hm => hv (hl v hm)

theorem count_void (w : Val) (hw : w.addr? ≠ none) : ([Val.void] : List Val).count w = 0 :=
  count_scalar_list _ (by simp [Val.addr?]) w hw

theorem count_replicate_void (n : Nat) (w : Val) (hw : w.addr? ≠ none) : (List.replicate n Val.void).count w = 0 :=
  count_scalar_list _ (fun _ hm => List.eq_of_mem_replicate hm ▸ rfl) w hw

/-- The heap invariant with the values `extra` that a handler holds in C locals.  `fresh`: every address is below
    `next`, so an allocation never lands on a live cell; `clean`: the flag the model sets wherever the C code
    would touch a dead address is still clear. -/
structure HX (roots : List Val) (h : Heap) (extra : List Val) : Prop where
  nodup : h.keys.Nodup
  fresh : ∀ k ∈ h.keys, k < h.next
  clean : h.dangling = false
  rc : RcInv roots h extra
  closed : Closed roots h extra
  kinds : Kinded (roots ++ extra) h

section
variable {roots : List Val} {h : Heap} {extra : List Val}

theorem HX.live (hx : HX roots h extra) {v : Val} {a : Nat}
    (hm : v ∈ roots ++ extra) (ha : v.addr? = some a) : a ∈ h.keys := by
  apply hx.closed a
  rcases List.mem_append.mp hm with h1 | h1 <;> simp [mem_refsOf h1 ha]

theorem HX.liveKid (hx : HX roots h extra) {b : Nat} {o : Obj} {v : Val} {a : Nat}
    (ho : h.obj? b = some o) (hm : v ∈ o.kids) (ha : v.addr? = some a) : a ∈ h.keys := by
  obtain ⟨c, hg, rfl⟩ := obj?_eq ho
  exact hx.closed a (by simp [mem_heapRefs (Heap.get?_some_mem hg) hm ha])

/-- the invariant only depends on how often each reference is held -/
theorem HX.mono {roots' extra' : List Val} (hx : HX roots h extra)
    (hle : LeVals (roots' ++ extra') (roots ++ extra)) : HX roots' h extra' := by
  obtain ⟨hi, hc⟩ : RcInv roots' h extra' ∧ Closed roots' h extra' :=
    mono_inv (fun x => by simpa [refsOf_append] using hle.refs x) hx.rc hx.closed
  refine ⟨hx.nodup, hx.fresh, hx.clean, hi, hc, fun v hv => ?_, hx.kinds.2⟩
  by_cases hs : v.addr? = none
  · exact KindOk.scalar h v hs
  · exact hx.kinds.1 v (hle.mem v hs hv)

end

/-- every object of `h'` is an object of `h`, at the same address (counts may differ) -/
def Heap.Sub (h' h : Heap) : Prop := ∀ p ∈ h'.cells, ∃ c, (p.1, c) ∈ h.cells ∧ c.obj = p.2.obj

theorem Heap.Sub.refl (h : Heap) : h.Sub h := fun p hp => ⟨p.2, hp, rfl⟩

theorem Heap.Sub.trans {h1 h2 h3 : Heap} (s : h1.Sub h2) (t : h2.Sub h3) : h1.Sub h3 := fun p hp =>
  let ⟨c, hc, e⟩ := s p hp
  let ⟨c', hc', e'⟩ := t (p.1, c) hc
  ⟨c', hc', e'.trans e⟩

theorem Heap.Sub.keys {h' h : Heap} (s : h'.Sub h) : ∀ k ∈ h'.keys, k ∈ h.keys := fun _ hk =>
  let ⟨p, hp, e⟩ := List.mem_map.mp hk
  let ⟨_, hc, _⟩ := s p hp
  e ▸ Heap.mem_keys hc

theorem Heap.sub_erase (h : Heap) (a : Nat) : (h.erase a).Sub h := fun p hp => ⟨p.2, (List.mem_filter.mp hp).1, rfl⟩

theorem Heap.sub_set {h : Heap} {a : Nat} {c c' : Cell} (hg : h.get? a = some c) (ho : c.obj = c'.obj) :
    (h.set a c').Sub h := fun p hp => by
  rcases Heap.mem_set hp with rfl | hp
  · exact ⟨c, Heap.get?_some_mem hg, ho⟩
  · exact ⟨p.2, hp, rfl⟩

/-- only the kind of the object at each address has to stay: `HX.set` changes the object itself -/
theorem KindOk.transfer {h h' : Heap} {v : Val}
    (hcells : ∀ p ∈ h'.cells, ∃ c, (p.1, c) ∈ h.cells ∧ c.obj.kind = p.2.obj.kind) (hk : KindOk h v) : KindOk h' v := by
  intro a c' ha hm
  obtain ⟨c, hmc, hkind⟩ := hcells (a, c') hm
  rw [hk a c ha hmc, hkind]

theorem Heap.Sub.kinded {h h' : Heap} {vals' : List Val} (s : h'.Sub h)
    (hk : ∀ p ∈ h.cells, ∀ v ∈ p.2.obj.kids, KindOk h v) (hv : ∀ v ∈ vals', KindOk h v) : Kinded vals' h' := by
  have hcells : ∀ p ∈ h'.cells, ∃ c, (p.1, c) ∈ h.cells ∧ c.obj.kind = p.2.obj.kind :=
    fun p hp => let ⟨c, h1, h2⟩ := s p hp; ⟨c, h1, by rw [h2]⟩
  refine ⟨fun v hvm => (hv v hvm).transfer hcells, fun p hp w hw => ?_⟩
  obtain ⟨c, h1, h2⟩ := s p hp
  exact (hk (p.1, c) h1 w (h2 ▸ hw)).transfer hcells

theorem KindOk.alloc_iff {h : Heap} {o : Obj} {w : Val} :
    KindOk (h.alloc o).1 w ↔ KindOk h w ∧ (w.addr? = some h.next → w.okind = some o.kind) := by
  refine ⟨fun hk => ⟨fun a c ha hm => hk a c ha (List.mem_append_left _ hm),
    fun ha => hk _ _ ha (List.mem_append_right _ (List.mem_singleton.mpr rfl))⟩, fun ⟨hk, hn⟩ a c ha hm => ?_⟩
  rcases List.mem_append.mp hm with hm | hm
  · exact hk a c ha hm
  · cases List.mem_singleton.mp hm; exact hn ha

theorem get?_set (h : Heap) (a b : Nat) (c : Cell) :
    (h.set a c).get? b = if b = a then (h.get? a).map (fun _ => c) else h.get? b := by
  unfold Heap.get? Heap.set
  have hf : ((fun x : Nat × Cell => x.1 == b) ∘ fun p : Nat × Cell => if p.1 == a then (a, c) else p) = (fun x => x.1 == b) := by
    funext p
    by_cases hpa : p.1 = a <;> simp [hpa]
  rw [List.find?_map, hf, Option.map_map]
  have hkey : ∀ p ∈ List.find? (fun x : Nat × Cell => x.1 == b) h.cells, p.1 = b :=
    fun p hp => by simpa using List.find?_some hp
  split
  · subst b
    rw [Option.map_map]
    exact Option.map_congr fun p hp => by simp [hkey p hp]
  · rename_i hba
    exact Option.map_congr fun p hp => by simp [hkey p hp, hba]

theorem get?_set_ne {h : Heap} {a b : Nat} (c : Cell) (hne : b ≠ a) : (h.set a c).get? b = h.get? b := by
  rw [get?_set, if_neg hne]

theorem get?_set_eq {h : Heap} {a : Nat} (c : Cell) {c0 : Cell} (hg : h.get? a = some c0) : (h.set a c).get? a = some c := by
  rw [get?_set, if_pos rfl, hg]; rfl

theorem get?_erase_ne {h : Heap} {a b : Nat} (hne : b ≠ a) : (h.erase a).get? b = h.get? b := by
  unfold Heap.get? Heap.erase
  rw [List.find?_filter]
  congr 2
  funext p
  by_cases hpb : p.1 = b
  · simp [hpb, hne]
  · simp [hpb]

theorem not_key_erase (h : Heap) (a : Nat) : a ∉ (h.erase a).keys := by
  simp [Heap.keys, Heap.erase]

theorem set_set (h : Heap) (a : Nat) (c c' : Cell) : (h.set a c).set a c' = h.set a c' := by
  unfold Heap.set
  simp only [List.map_map]
  congr 1
  apply List.map_congr_left
  intro p _
  by_cases hpa : p.1 = a <;> simp [hpa]

theorem set_comm {h : Heap} {a b : Nat} {c c' : Cell} (hne : a ≠ b) : (h.set a c).set b c' = (h.set b c').set a c := by
  unfold Heap.set
  simp only [List.map_map]
  congr 1
  apply List.map_congr_left
  intro p _
  by_cases hpa : p.1 = a <;> by_cases hpb : p.1 = b <;> simp [hpa, hpb, hne, hne.symm]

theorem erase_set {h : Heap} {a b : Nat} {c : Cell} : (h.set a c).erase b = (h.erase b).set a c := by
  unfold Heap.set Heap.erase
  simp only [List.filter_map]
  congr 2
  apply List.filter_congr
  intro p _
  by_cases hpa : p.1 = a <;> simp [hpa]

theorem set_markDangling (h : Heap) (a : Nat) (c : Cell) : (h.set a c).markDangling = h.markDangling.set a c := rfl

theorem setObj_eq {h : Heap} {a : Nat} (o : Obj) {c : Cell} (hg : h.get? a = some c) :
    h.setObj a o = h.set a { c with obj := o } := by
  unfold Heap.setObj; rw [hg]

/-- `setObj` at `a` commutes with everything `vm_release` does at another address -/
theorem setObj_other (h : Heap) {a b : Nat} (o : Obj) (hne : b ≠ a) :
    (h.setObj a o).get? b = h.get? b ∧ (h.setObj a o).erase b = (h.erase b).setObj a o ∧
      ∀ c, (h.setObj a o).set b c = (h.set b c).setObj a o := by
  unfold Heap.setObj
  rw [get?_erase_ne hne.symm]
  simp only [get?_set_ne _ hne.symm]
  cases h.get? a with
  | none => exact ⟨rfl, rfl, fun _ => rfl⟩
  | some c0 => exact ⟨get?_set_ne _ hne, erase_set, fun _ => set_comm hne.symm⟩

theorem setObj_markDangling (h : Heap) (a : Nat) (o : Obj) : (h.setObj a o).markDangling = h.markDangling.setObj a o := by
  unfold Heap.setObj
  show _ = match h.get? a with | some c => _ | none => _
  cases h.get? a <;> rfl

theorem obj?_setObj {h : Heap} {a : Nat} (o' : Obj) (hk : a ∈ h.keys) : (h.setObj a o').obj? a = some o' := by
  obtain ⟨c, hg⟩ := Heap.mem_key_get? hk
  rw [setObj_eq o' hg, Heap.obj?, get?_set_eq _ hg]; rfl

theorem setObj_setObj {h : Heap} {a : Nat} (o1 o2 : Obj) (hk : a ∈ h.keys) : (h.setObj a o1).setObj a o2 = h.setObj a o2 := by
  obtain ⟨c, hg⟩ := Heap.mem_key_get? hk
  rw [setObj_eq o1 hg, setObj_eq o2 hg, setObj_eq o2 (get?_set_eq _ hg), set_set]

theorem setObj_self {h : Heap} {a : Nat} {o : Obj} (hn : h.keys.Nodup) (ho : h.obj? a = some o) : h.setObj a o = h := by
  obtain ⟨c, hg, rfl⟩ := obj?_eq ho
  obtain ⟨l1, l2, e, es, -, -⟩ := cells_split hn (Heap.get?_some_mem hg)
  rw [setObj_eq _ hg]
  show ({ h with cells := (h.set a c).cells } : Heap) = h
  rw [es, ← e]

theorem setObj_keys (h : Heap) (a : Nat) (o : Obj) : (h.setObj a o).keys = h.keys := by
  unfold Heap.setObj
  cases h.get? a with
  | none => rfl
  | some c => exact set_keys _ _ _

theorem release_nil (h : Heap) : h.release [] = h := by rw [Heap.release]

theorem release_scalar {h : Heap} {v : Val} {ws : List Val} (hv : v.addr? = none) : h.release (v :: ws) = h.release ws := by
  rw [Heap.release]; simp [hv]

theorem release_dead {h : Heap} {v : Val} {ws : List Val} {a : Nat} (hv : v.addr? = some a) (hg : h.get? a = none) :
    h.release (v :: ws) = h.markDangling.release ws := by
  rw [Heap.release]; simp only [hv]; split
  · rfl
  · rename_i c h1; rw [hg] at h1; cases h1

theorem release_live {h : Heap} {v : Val} {ws : List Val} {a : Nat} {c : Cell} (hv : v.addr? = some a) (hg : h.get? a = some c) :
    h.release (v :: ws) = if c.rc ≤ 1 then (h.erase a).release (c.obj.kids ++ ws)
      else (h.set a { c with rc := c.rc - 1 }).release ws := by
  rw [Heap.release]; simp only [hv]; split
  · rename_i h1; rw [hg] at h1; cases h1
  · rename_i c' h1; rw [hg] at h1; cases h1; rfl

theorem release_sub (h : Heap) (ws : List Val) : (h.release ws).Sub h := by
  fun_induction Heap.release h ws with
  | case1 h => exact .refl h
  | case2 h v ws hv ih => exact ih
  | case3 h v ws a hv hg ih => exact ih
  | case4 h v ws a hv c hg hrc ih => exact ih.trans (h.sub_erase a)
  | case5 h v ws a hv c hg hrc ih => exact ih.trans (Heap.sub_set hg rfl)

/-- `vm_release` only looks at the children of objects it frees -/
theorem release_setObj (h : Heap) (ws : List Val) (a : Nat) (o : Obj) :
    a ∈ (h.release ws).keys → (h.setObj a o).release ws = (h.release ws).setObj a o := by
  fun_induction Heap.release h ws with
  | case1 h => intro _; rw [release_nil]
  | case2 h v ws hv ih => intro hk; rw [release_scalar hv]; exact ih hk
  | case3 h v ws b hv hg ih =>
    intro hk
    have hba : b ≠ a := by rintro rfl; exact Heap.get?_none_not_key hg ((release_sub h.markDangling ws).keys _ hk)
    rw [release_dead hv ((setObj_other h o hba).1.trans hg), setObj_markDangling]
    exact ih hk
  | case4 h v ws b hv c hg hrc ih =>
    intro hk
    -- `a` survives, so it is not the object freed here
    have hba : b ≠ a := by rintro rfl; exact not_key_erase h _ ((release_sub _ _).keys _ hk)
    obtain ⟨e1, e2, -⟩ := setObj_other h o hba
    rw [release_live hv (e1.trans hg), if_pos hrc, e2]
    exact ih hk
  | case5 h v ws b hv c hg hrc ih =>
    intro hk
    by_cases hba : b = a
    · subst hba
      have hs : h.setObj b o = h.set b { c with obj := o } := setObj_eq _ hg
      have hg' : (h.setObj b o).get? b = some { c with obj := o } := hs ▸ get?_set_eq _ hg
      have : (h.setObj b o).set b { rc := c.rc - 1, obj := o } = (h.set b { c with rc := c.rc - 1 }).setObj b o := by
        rw [hs, set_set, setObj_eq _ (get?_set_eq _ hg), set_set]
      rw [release_live hv hg', if_neg hrc]
      -- `{ { c with obj := o } with rc := _ }` has to be the plain record for `this` to apply
      dsimp only at this ⊢
      rw [this]; exact ih hk
    · obtain ⟨e1, -, e3⟩ := setObj_other h o hba
      rw [release_live hv (e1.trans hg), if_neg hrc, e3]
      exact ih hk

theorem HX.releaseList {roots : List Val} {h : Heap} {ws : List Val} {extra : List Val} (hx : HX roots h (ws ++ extra)) :
    HX roots (h.release ws) extra := by
  obtain ⟨r1, r2, r3, r4, r5⟩ := release_inv roots h ws extra hx.nodup hx.rc hx.closed
  have hs := release_sub h ws
  exact ⟨r3, fun k hk => r5 ▸ hx.fresh k (hs.keys k hk), r4 ▸ hx.clean, r1, r2, hs.kinded hx.kinds.2 fun w hw =>
    hx.kinds.1 w (List.mem_append.mpr ((List.mem_append.mp hw).imp_right (List.mem_append_right ws)))⟩

theorem HX.release {roots : List Val} {h : Heap} {v : Val} {extra : List Val} (hx : HX roots h (v :: extra)) :
    HX roots (h.release1 v) extra :=
  HX.releaseList (ws := [v]) hx

/-- `hle` is the condition of `set_inv` -/
theorem HX.set {roots : List Val} {h : Heap} {extra extra' : List Val} {a : Nat} {c c' : Cell} (hx : HX roots h extra)
    (hg : h.get? a = some c) (hkind : c'.obj.kind = c.obj.kind)
    (hle : ∀ x, (refsOf c'.obj.kids).count x + (refsOf extra').count x + (if x = a then c.rc else 0)
              ≤ (refsOf c.obj.kids).count x + (refsOf extra).count x + (if x = a then c'.rc else 0))
    (hk : ∀ w ∈ c'.obj.kids ++ extra', KindOk h w) : HX roots (h.set a c') extra' := by
  have hm := Heap.get?_some_mem hg
  have hinv := set_inv hx.nodup hm hle hx.rc hx.closed
  have hkeys := set_keys h a c'
  have hcells : ∀ p ∈ (h.set a c').cells, (∃ c0, (p.1, c0) ∈ h.cells ∧ c0.obj.kind = p.2.obj.kind) ∧
      ∀ w ∈ p.2.obj.kids, KindOk h w := fun p hp => by
    rcases Heap.mem_set hp with rfl | hp
    · exact ⟨⟨c, hm, hkind.symm⟩, fun w hw => hk w (List.mem_append_left _ hw)⟩
    · exact ⟨⟨p.2, hp, rfl⟩, hx.kinds.2 p hp⟩
  have htr : ∀ {w}, KindOk h w → KindOk (h.set a c') w := KindOk.transfer fun p hp => (hcells p hp).1
  refine ⟨hkeys ▸ hx.nodup, fun k hk' => hx.fresh k (hkeys ▸ hk'), hx.clean, hinv.1, hinv.2, fun w hw => htr ?_,
    fun p hp w hw => htr ((hcells p hp).2 w hw)⟩
  rcases List.mem_append.mp hw with h1 | h1
  · exact hx.kinds.1 w (List.mem_append_left _ h1)
  · exact hk w (List.mem_append_right _ h1)

theorem HX.retain {roots : List Val} {h : Heap} {extra : List Val} (hx : HX roots h extra) (v : Val)
    (hlive : ∀ a, v.addr? = some a → a ∈ h.keys) (hkind : KindOk h v) : HX roots (h.retain v) (v :: extra) := by
  unfold Heap.retain
  cases hva : v.addr? with
  | none =>
    refine hx.mono fun w hw => ?_
    have := count_scalar_list [v] (by simpa using hva) w hw
    simp only [List.count_append, List.count_cons, List.count_nil] at this ⊢; omega
  | some a =>
    obtain ⟨c, hg⟩ := Heap.mem_key_get? (hlive a hva)
    simp only [hg]
    refine hx.set hg rfl (fun x => by
      by_cases hxa : x = a <;> simp [count_refsOf_cons hva, hxa] <;> omega) fun w hw => ?_
    rcases List.mem_append.mp hw with h1 | h1
    · exact hx.kinds.2 (a, c) (Heap.get?_some_mem hg) w h1
    · rcases List.mem_cons.mp h1 with rfl | h2
      · exact hkind
      · exact hx.kinds.1 w (List.mem_append_right _ h2)

section
variable {roots : List Val} {h : Heap} {extra : List Val}

theorem HX.retainHeld (hx : HX roots h extra) (v : Val)
    (hm : v.addr? = none ∨ v ∈ roots ++ extra) : HX roots (h.retain v) (v :: extra) := by
  rcases hm with hs | hm
  · exact hx.retain v (by intro a ha; rw [hs] at ha; cases ha) (KindOk.scalar _ _ hs)
  · exact hx.retain v (fun a ha => hx.live hm ha) (hx.kinds.1 v hm)

theorem HX.retainKid (hx : HX roots h extra) (v : Val) {a : Nat} {o : Obj} (ho : h.obj? a = some o) (hm : v ∈ o.kids) :
    HX roots (h.retain v) (v :: extra) := by
  obtain ⟨c, hg, rfl⟩ := obj?_eq ho
  exact hx.retain v (fun _ ha => hx.liveKid ho hm ha) (hx.kinds.2 (a, c) (Heap.get?_some_mem hg) v hm)

/-- `elements[i] = v`, `array_push`, ...: references move between the object and the handler, which gives up
    `inn` and is left with `out` -/
theorem HX.setKids (a : Nat) (o o' : Obj) (inn out : List Val)
    (hx : HX roots h (inn ++ extra)) (ho : h.obj? a = some o) (hkind : o'.kind = o.kind)
    (hle : LeVals (o'.kids ++ out) (o.kids ++ inn)) : HX roots (h.setObj a o') (out ++ extra) := by
  obtain ⟨c, hg, rfl⟩ := obj?_eq ho
  rw [setObj_eq o' hg]
  refine hx.set hg hkind (fun x => by
    have := hle.refs x
    simp only [refsOf_append, List.count_append] at this ⊢; omega) fun w hw => ?_
  by_cases hs : w.addr? = none
  · exact KindOk.scalar _ _ hs
  have hsrc : w ∈ o'.kids ++ out → KindOk h w := fun hm => by
    rcases List.mem_append.mp (hle.mem w hs hm) with h1 | h1
    · exact hx.kinds.2 (a, c) (Heap.get?_some_mem hg) w h1
    · exact hx.kinds.1 w (List.mem_append_right _ (List.mem_append_left _ h1))
  rcases List.mem_append.mp hw with h1 | h1
  · exact hsrc (List.mem_append_left _ h1)
  · rcases List.mem_append.mp h1 with h2 | h2
    · exact hsrc (List.mem_append_right _ h2)
    · exact hx.kinds.1 w (List.mem_append_right _ (List.mem_append_right _ h2))

/-- The children move from the handler into the new object.  Callers pass a constructor of `Val` for `mk` (of
    `Obj` for `mkO` in `HX.replaceKid`), for which the last two conditions hold by `rfl`. -/
theorem HX.alloc (o : Obj) (mk : Nat → Val) (hx : HX roots h (o.kids ++ extra))
    (hmk : ∀ a, (mk a).addr? = some a := by exact fun _ => rfl)
    (hmkk : ∀ a, (mk a).okind = some o.kind := by exact fun _ => rfl) :
    HX roots (h.alloc o).1 (mk (h.alloc o).2 :: extra) := by
  have ⟨hi, hc⟩ := alloc_inv (extra' := mk h.next :: extra) o hx.fresh (fun x => by
    rw [count_refsOf_cons (hmk _), refsOf_append, List.count_append]; omega) hx.rc hx.closed
  have ⟨hn, hf⟩ := alloc_nodup_fresh o hx.nodup hx.fresh
  have hnotkey : h.next ∉ h.keys := fun hk => Nat.lt_irrefl _ (hx.fresh _ hk)
  -- old values keep their kind: the new cell is at an address none of them has
  have hold : ∀ w ∈ roots ++ (o.kids ++ extra), KindOk (h.alloc o).1 w := fun w hw =>
    KindOk.alloc_iff.mpr ⟨hx.kinds.1 w hw, fun ha => absurd (hx.live hw ha) hnotkey⟩
  refine ⟨hn, hf, hx.clean, hi, hc, fun w hw => ?_, fun p hp w hw => ?_⟩
  · rcases List.mem_append.mp hw with h1 | h1
    · exact hold w (List.mem_append_left _ h1)
    · rcases List.mem_cons.mp h1 with rfl | h2
      · exact KindOk.alloc_iff.mpr ⟨fun a c ha hm => absurd (Heap.mem_keys hm) (by cases (hmk _).symm.trans ha; exact hnotkey),
          fun _ => hmkk _⟩
      · exact hold w (List.mem_append_right _ (List.mem_append_right _ h2))
  · rcases List.mem_append.mp hp with hp | hp
    · exact KindOk.alloc_iff.mpr ⟨hx.kinds.2 p hp w hw, fun ha =>
        absurd (hx.closed _ (by simp [mem_heapRefs hp hw ha])) hnotkey⟩
    · cases List.mem_singleton.mp hp
      exact hold w (List.mem_append_right _ (List.mem_append_left _ hw))

/-- `vm_string_new`: interned by content -/
theorem HX.strNew (b : Bytes) (hx : HX roots h extra) :
    HX roots (h.strNew b).1 ((h.strNew b).2 :: extra) := by
  unfold Heap.strNew
  cases hf : h.cells.find? (fun p => match p.2.obj with | .str b' => b' == b | _ => false) with
  | none => exact HX.alloc (.str b) .str hx
  | some p =>
    obtain ⟨a, c⟩ := p
    have hm := List.mem_of_find?_eq_some hf
    have hg : h.get? a = some c := Heap.get?_of_mem hx.nodup hm
    have hkind : c.obj.kind = 0 := by
      have hp := List.find?_some hf
      cases hco : c.obj <;> simp [hco] at hp <;> rfl
    have hr : h.retain (.str a) = h.set a { c with rc := c.rc + 1 } := by
      unfold Heap.retain; simp [Val.addr?, hg]
    show HX roots (h.set a { c with rc := c.rc + 1 }) (.str a :: extra)
    rw [← hr]
    refine hx.retain _ (fun a' ha' => ?_) fun a' c' ha' hm' => ?_
    · cases ha'; exact Heap.mem_keys hm
    · cases ha'; rw [mem_cells_unique hx.nodup hm hm', hkind]; rfl

theorem count_set_void (l : List Val) (i : Nat) (hi : i < l.length) (w : Val) (hw : w.addr? ≠ none) :
    (l.set i .void).count w + [l.getD i .void].count w = l.count w := by
  rw [count_set_getD hi .void .void w, count_void w hw]; rfl

/-- `vm_release(kids[i]); kids := K'` on a live object `a` that somebody still holds: although the child is
    released while the object still points at it, the object itself cannot be freed by that release, so the
    result is the same as taking the child out first -/
theorem HX.replaceKid (a : Nat) (mkO : List Val → Obj)
    (K : List Val) (i : Nat) (hi : i < K.length) (inn K' : List Val)
    (hx : HX roots h (inn ++ extra)) (ho : h.obj? a = some (mkO K))
    (hheld : ∃ v ∈ roots ++ extra, v.addr? = some a)
    (hle : LeVals K' ((K.set i .void) ++ inn))
    (hkids : ∀ l, (mkO l).kids = l := by exact fun _ => rfl)
    (hkind : ∀ l l', (mkO l).kind = (mkO l').kind := by exact fun _ _ => rfl) :
    (h.release1 (K.getD i .void)).obj? a = some (mkO K) ∧
      HX roots ((h.release1 (K.getD i .void)).setObj a (mkO K')) extra := by
  have hka := obj?_key ho
  have hcnt := fun w hw => count_set_void K i hi w hw
  generalize K.getD i .void = d at hcnt ⊢
  -- `hh`: the heap with the child taken out
  obtain ⟨hh, ehh⟩ : ∃ hh, hh = h.setObj a (mkO (K.set i .void)) := ⟨_, rfl⟩
  have h0 : HX roots hh ([d] ++ (inn ++ extra)) := by
    rw [ehh]
    apply HX.setKids a _ (mkO (K.set i .void)) [] [d] (by simpa using hx) ho (hkind _ _)
    intro w hw
    have := hcnt w hw
    rw [hkids, hkids]
    simp only [List.count_append, List.count_nil]
    omega
  have h1 : HX roots (hh.release1 d) (inn ++ extra) := HX.release h0
  -- `a` survives that release
  obtain ⟨v, hvm, hva⟩ := hheld
  have hka1 : a ∈ (hh.release1 d).keys :=
    h1.live (List.mem_append.mpr ((List.mem_append.mp hvm).imp_right (List.mem_append_right inn))) hva
  have hrel : h.release1 d = (hh.release1 d).setObj a (mkO K) := by
    unfold Heap.release1 at hka1 ⊢
    rw [← release_setObj _ _ _ _ hka1, ehh, setObj_setObj _ _ hka, setObj_self hx.nodup ho]
  rw [hrel, setObj_setObj _ _ hka1]
  refine ⟨obj?_setObj _ hka1, ?_⟩
  -- the object at `a` in the released heap is the one with the hole
  obtain ⟨c1, hg1⟩ := Heap.mem_key_get? hka1
  obtain ⟨c0, hm0, ho0⟩ := release_sub _ _ _ (Heap.get?_some_mem hg1)
  have ho1 : (hh.release1 d).obj? a = some (mkO (K.set i .void)) := by
    have := obj?_setObj (mkO (K.set i .void)) hka
    rw [← ehh, Heap.obj?, Heap.get?_of_mem h0.nodup hm0] at this
    rw [obj?_of_get? hg1, ← ho0]; simpa using this
  have hfin := HX.setKids a _ (mkO K') inn [] h1 ho1 (hkind _ _) (by rw [hkids, hkids]; simpa using hle)
  simpa using hfin

end

/-! ### allocation commutes with retaining live values (`vm_array_slice` fills the new array first) -/

theorem Heap.retain_cases (h : Heap) (v : Val) :
    h.retain v = h ∨ h.retain v = h.markDangling ∨
      ∃ a c, v.addr? = some a ∧ h.get? a = some c ∧ h.retain v = h.set a { c with rc := c.rc + 1 } := by
  unfold Heap.retain
  cases hv : v.addr? with
  | none => exact Or.inl rfl
  | some a =>
    dsimp only
    cases hg : h.get? a with
    | none => exact Or.inr (Or.inl rfl)
    | some c => exact Or.inr (Or.inr ⟨a, c, rfl, hg, rfl⟩)

theorem retain_keys (h : Heap) (v : Val) : (h.retain v).keys = h.keys := by
  rcases h.retain_cases v with e | e | ⟨a, c, -, -, e⟩ <;> rw [e]
  · rfl
  · exact set_keys _ _ _

theorem retain_next (h : Heap) (v : Val) : (h.retain v).next = h.next := by
  rcases h.retain_cases v with e | e | ⟨a, c, -, -, e⟩ <;> rw [e] <;> rfl

theorem obj?_retain (h : Heap) (v : Val) (a : Nat) : (h.retain v).obj? a = h.obj? a := by
  rcases h.retain_cases v with e | e | ⟨b, c, -, hg, e⟩ <;> rw [e]
  · rfl
  · rw [Heap.obj?, Heap.obj?, get?_set]
    by_cases hab : a = b
    · subst hab; simp [hg]
    · simp [hab]

theorem alloc_retain {h : Heap} (o : Obj) {v : Val} (hlive : ∀ a, v.addr? = some a → a ∈ h.keys)
    (hfresh : ∀ k ∈ h.keys, k < h.next) :
    (h.alloc o).1.retain v = ((h.retain v).alloc o).1 ∧ ((h.retain v).alloc o).2 = (h.alloc o).2 := by
  unfold Heap.retain
  cases hv : v.addr? with
  | none => exact ⟨rfl, rfl⟩
  | some a =>
    obtain ⟨c, hg⟩ := Heap.mem_key_get? (hlive a hv)
    have hne : h.next ≠ a := Nat.ne_of_gt (hfresh a (hlive a hv))
    -- the lookup does not get as far as the new cell
    have hg' : (h.alloc o).1.get? a = some c := by
      obtain ⟨p, hf, e⟩ := Option.map_eq_some_iff.mp hg
      simp [Heap.get?, Heap.alloc, List.find?_append, hf, e]
    simp only [hg, hg']
    exact ⟨by simp [Heap.set, Heap.alloc, List.map_append, hne], rfl⟩

theorem HX.retainKids {roots : List Val} (a : Nat) (o : Obj) (part : List Val) (hpart : ∀ v ∈ part, v ∈ o.kids) :
    ∀ {h : Heap} {extra : List Val}, HX roots h extra → h.obj? a = some o →
      HX roots (part.foldl Heap.retain h) (part.reverse ++ extra) := by
  induction part with
  | nil => intro h extra hx _; simpa using hx
  | cons v r ih =>
    intro h extra hx ho
    have h1 := hx.retainKid v ho (hpart v List.mem_cons_self)
    have h2 := ih (fun w hw => hpart w (List.mem_cons_of_mem _ hw)) h1 (by rw [obj?_retain]; exact ho)
    simpa [List.foldl_cons, List.reverse_cons, List.append_assoc] using h2

theorem foldl_retain_alloc (o : Obj) (part : List Val) :
    ∀ (h : Heap), (∀ v ∈ part, ∀ a, v.addr? = some a → a ∈ h.keys) → (∀ k ∈ h.keys, k < h.next) →
      part.foldl Heap.retain (h.alloc o).1 = ((part.foldl Heap.retain h).alloc o).1 ∧
      ((part.foldl Heap.retain h).alloc o).2 = (h.alloc o).2 := by
  induction part with
  | nil => intro h _ _; exact ⟨rfl, rfl⟩
  | cons v r ih =>
    intro h hlive hfresh
    obtain ⟨e1, e2⟩ := alloc_retain o (hlive v List.mem_cons_self) hfresh
    have := ih (h.retain v) (fun w hw a ha => retain_keys h v ▸ hlive w (List.mem_cons_of_mem _ hw) a ha)
      (fun k hk => retain_next h v ▸ hfresh k (retain_keys h v ▸ hk))
    rw [List.foldl_cons, List.foldl_cons, e1]
    exact ⟨this.1, this.2.trans e2⟩

end NanoVerif
