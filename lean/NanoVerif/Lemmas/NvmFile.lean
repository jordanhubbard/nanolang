/-
Not to be confused: `secPairs` / `bodyBytes` of a `List Sec` are what the model's `sectionsOf` / `bodyOf`
are for `nvm_serialize`'s list of (type, bytes) pairs; `secsOf` (Lemmas/NvmWhole) is the `List Sec` of a module.
-/
import NanoVerif.Lemmas.NvmRt

namespace NanoVerif

inductive Sec
  | strings (ss : List Bytes)
  | code (c : Bytes)
  | functions (fs : List FnEntry)
  | debug (ds : List DebugEntry)
  | imports (is : List ImportEntry)

def Sec.ty : Sec → Nat
  | .strings _ => Gen.secStrings | .code _ => Gen.secCode | .functions _ => Gen.secFunctions
  | .debug _ => Gen.secDebug | .imports _ => Gen.secImports

def Sec.bytes : Sec → Bytes
  | .strings ss => serStrings ss | .code c => c | .functions fs => fs.flatMap serFn
  | .debug ds => ds.flatMap serDebug | .imports is => is.flatMap serImport

/-- what loading the section adds to the module built so far -/
def Sec.apply (m : Module) : Sec → Module
  | .strings ss => { m with strings := ss.foldl (fun a s => (addString a s).1) m.strings }
  | .code c => { m with code := m.code ++ c }
  | .functions fs => { m with functions := m.functions ++ fs }
  | .debug ds => { m with debug := m.debug ++ ds }
  | .imports is => { m with imports := m.imports ++ is.map canonImport }

/-- entries fit their fields and the section is small enough for the loader's 32-bit loop tests -/
def Sec.wf : Sec → Prop
  | .strings ss => (∀ s ∈ ss, s.length < 4294967296) ∧ (serStrings ss).length + 4 < 4294967296
  | .code c => c.length < 4294967296
  | .functions fs => (∀ f ∈ fs, f.wf) ∧ (fs.flatMap serFn).length + 18 < 4294967296
  | .debug ds => (∀ d ∈ ds, d.wf) ∧ (ds.flatMap serDebug).length + 8 < 4294967296
  | .imports is => (∀ i ∈ is, i.wf) ∧ (is.flatMap serImport).length + 65600 < 4294967296

theorem Sec.bytes_lt (s : Sec) (h : s.wf) : s.bytes.length < 4294967296 := by
  cases s <;> simp only [Sec.wf, Sec.bytes] at h ⊢ <;> omega

theorem loadSection_at (data : Bytes) (s : Sec) (m : Module) (e i off : Nat) (hw : s.wf) (hat : At data off s.bytes)
    (r1 : rd data (Gen.headerSize + i * Gen.sectionEntrySize) 4 = .ok s.ty)
    (r2 : rd data (Gen.headerSize + i * Gen.sectionEntrySize + 4) 4 = .ok off)
    (r3 : rd data (Gen.headerSize + i * Gen.sectionEntrySize + 8) 4 = .ok s.bytes.length) :
    loadSection data m e i = .ok (s.apply m, if off + s.bytes.length > e then off + s.bytes.length else e) := by
  have hlen := hat.le_length
  unfold loadSection
  simp only [r1, r2, r3, bind, Except.bind]
  rw [if_neg (by simp only [Bool.or_eq_true, decide_eq_true_eq]; omega)]
  cases s
  all_goals simp +decide only [Sec.ty, Sec.bytes, ↓reduceIte]
  case strings ss =>
    rw [parseStrings_ser ss hw.1 hw.2 _ hat]
    rfl
  case code c =>
    rw [(show At data off c from hat).rdBytes rfl]
    rfl
  case functions fs =>
    rw [parseFunctions_ser fs hw.1 hw.2 _ hat]
    rfl
  case debug ds =>
    rw [parseDebug_ser ds hw.1 hw.2 _ hat]
    rfl
  case imports is =>
    rw [parseImports_ser is hw.1 hw.2 _ hat]
    rfl

def secPairs (secs : List Sec) : List (Nat × Bytes) := secs.map (fun s => (s.ty, s.bytes))
def bodyBytes (secs : List Sec) : Bytes := secs.flatMap Sec.bytes

theorem secPairs_flat (secs : List Sec) : (secPairs secs).flatMap (·.2) = bodyBytes secs :=
  List.flatMap_map ..

theorem Sec.ty_lt (s : Sec) : s.ty < 256 ^ 4 := by cases s <;> simp only [Sec.ty] <;> decide

/-- `data` is a variable with the equation `hd` so that the goals of the induction do not carry the
    concatenation.  Induction shape: `done` has been loaded, `todo` remains, the running data end stands after
    the bytes of `done`. -/
theorem loadSections_file (H : Bytes) (hH : H.length = Gen.headerSize) (secs : List Sec) (hw : ∀ s ∈ secs, s.wf)
    (data : Bytes) (hd : data = H ++ dirEntries (Gen.headerSize + Gen.sectionEntrySize * secs.length) (secPairs secs) ++ bodyBytes secs)
    (hsize : data.length < 4294967296) :
    ∀ (todo done : List Sec) (m : Module), secs = done ++ todo →
      loadSections data todo.length done.length m (Gen.headerSize + Gen.sectionEntrySize * secs.length + (bodyBytes done).length)
        = .ok (todo.foldl Sec.apply m, Gen.headerSize + Gen.sectionEntrySize * secs.length + (bodyBytes secs).length) := by
  have hdir : At data Gen.headerSize (dirEntries (Gen.headerSize + Gen.sectionEntrySize * secs.length) (secPairs secs)) :=
    hd ▸ hH ▸ At.mid ..
  have hbody : At data (Gen.headerSize + Gen.sectionEntrySize * secs.length) (bodyBytes secs) :=
    ⟨_, [], by rw [hd, List.append_nil], by rw [List.length_append, hH, dirEntries_length]; simp [secPairs, Gen.sectionEntrySize]⟩
  have hlen := hbody.le_length
  intro todo
  induction todo with
  | nil =>
    intro done m hs
    rw [hs, List.append_nil]
    rfl
  | cons s rest ih =>
    intro done m hs
    have hws : s.wf := hw s (by rw [hs]; simp)
    have hsl := s.bytes_lt hws
    -- the directory splits at `done`: `hent` is the entry (type, offset, size) of `s`, `hsec` its bytes in the body
    rw [hs, secPairs, List.map_append, List.map_cons, dirEntries_append, dirEntries, ← secPairs, secPairs_flat, ← hs] at hdir
    have hent := (hdir.right (k := done.length * Gen.sectionEntrySize)
      (by rw [dirEntries_length]; simp [secPairs, Gen.sectionEntrySize, Nat.mul_comm])).left
    have hsec : At data (Gen.headerSize + Gen.sectionEntrySize * secs.length + (bodyBytes done).length) s.bytes := by
      rw [hs, bodyBytes, List.flatMap_append, List.flatMap_cons, ← bodyBytes, ← bodyBytes, ← hs] at hbody
      exact (hbody.right rfl).left
    have hbl : (bodyBytes secs).length = (bodyBytes done).length + s.bytes.length + (bodyBytes rest).length := by
      rw [hs]; simp [bodyBytes]; omega
    rw [List.length_cons, loadSections, loadSection_at data s m _ done.length _ hws hsec (hent.left.left.rd s.ty_lt)
      ((hent.left.right (leBytes_length ..)).rd (by show _ < 256 ^ 4; omega)) ((hent.right (by simp)).rd (by show _ < 256 ^ 4; omega))]
    have := ih (done ++ [s]) (s.apply m) (by rw [hs]; simp)
    rw [List.length_append, List.length_singleton, show bodyBytes (done ++ [s]) = bodyBytes done ++ s.bytes by simp [bodyBytes],
      List.length_append, ← Nat.add_assoc] at this
    have he : ∀ a n : Nat, (if a + n > a then a + n else a) = a + n := fun a n => by split <;> omega
    simp only [bind, Except.bind]
    rw [he]
    exact this

theorem loadSections_file_all (H : Bytes) (hH : H.length = Gen.headerSize) (secs : List Sec) (hw : ∀ s ∈ secs, s.wf)
    (data : Bytes) (hd : data = H ++ dirEntries (Gen.headerSize + Gen.sectionEntrySize * secs.length) (secPairs secs) ++ bodyBytes secs)
    (hsize : data.length < 4294967296) (m : Module) :
    loadSections data secs.length 0 m (Gen.headerSize + Gen.sectionEntrySize * secs.length)
      = .ok (secs.foldl Sec.apply m, Gen.headerSize + Gen.sectionEntrySize * secs.length + (bodyBytes secs).length) :=
  loadSections_file H hH secs hw data hd hsize secs [] m rfl

end NanoVerif
