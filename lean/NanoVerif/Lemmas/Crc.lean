/-
The burst argument is one of degree: a register (`feedBits`) that reaches 0 after `n` more bits was
below `2 ^ n`, because the polynomial's top bit is set.  With linearity in start value and message,
and the table-driven byte loop shown to be that register, the CRC is affine in the message.
-/
import NanoVerif.Model.Crc
namespace NanoVerif

theorem crcP_msb : crcP.getLsbD 31 = true := by decide

theorem step0_bound (x : BitVec 32) (j : Nat) (hj : j ≤ 31) (h : (step0 x).toNat < 2 ^ j) :
    x.toNat < 2 ^ (j + 1) := by
  unfold step0 at h
  by_cases hb : x.getLsbD 0
  · simp only [hb, if_true] at h
    have h31 : ((x >>> 1) ^^^ crcP).getLsbD 31 = true := by
      simp [crcP_msb]
    have := Nat.ge_two_pow_of_testBit h31
    have : 2 ^ j ≤ 2 ^ 31 := Nat.pow_le_pow_right (by omega) hj
    omega
  · simp only [hb] at h
    simp only [Bool.false_eq_true, if_false, BitVec.toNat_ushiftRight, Nat.shiftRight_eq_div_pow] at h
    rw [Nat.pow_succ]; omega

theorem feedBits_cons (c : BitVec 32) (b : Bool) (bs : List Bool) :
    feedBits c (b :: bs) = feedBits (feedBit c b) bs := rfl

theorem lt_two_pow_of_feedBits_eq_zero (s : BitVec 32) (bs : List Bool) (hl : bs.length ≤ 32) (h : feedBits s bs = 0#32) :
    s.toNat < 2 ^ bs.length := by
  induction bs generalizing s with
  | nil => rw [show s = 0#32 from h]; decide
  | cons b bs ih =>
    simp only [List.length_cons] at hl ⊢
    have hx := step0_bound (s ^^^ bitv b) bs.length (by omega) (ih (feedBit s b) (by omega) h)
    have hbit : (bitv b).toNat < 2 ^ (bs.length + 1) := by
      have h1 : (bitv b).toNat ≤ 1 := by cases b <;> simp [bitv]
      have h2 : 2 ^ 1 ≤ 2 ^ (bs.length + 1) := Nat.pow_le_pow_right (by omega) (by omega)
      omega
    rw [show s = (s ^^^ bitv b) ^^^ bitv b by rw [BitVec.xor_assoc, BitVec.xor_self, BitVec.xor_zero], BitVec.toNat_xor]
    exact Nat.xor_lt_two_pow hx hbit

theorem feedBits_zeros (k : Nat) : feedBits 0#32 (List.replicate k false) = 0#32 := by
  induction k with
  | zero => rfl
  | succ k ih => rw [List.replicate_succ, feedBits_cons, show feedBit 0#32 false = 0#32 by decide, ih]

theorem step0_linear (a b : BitVec 32) : step0 (a ^^^ b) = step0 a ^^^ step0 b := by
  unfold step0
  rw [BitVec.getLsbD_xor, BitVec.ushiftRight_xor_distrib]
  cases ha : a.getLsbD 0 <;> cases hb : b.getLsbD 0 <;> simp
  · ac_rfl
  · ac_rfl
  · rw [show (a >>> 1 ^^^ crcP ^^^ (b >>> 1 ^^^ crcP)) = (a >>> 1 ^^^ b >>> 1) ^^^ (crcP ^^^ crcP) by ac_rfl]
    simp

theorem step0_eq_zero (x : BitVec 32) (h0 : step0 x = 0#32) : x = 0#32 := by
  -- by the bound `x` is 0 or 1, and `step0 1` is the polynomial
  have hb : x.toNat < 2 := step0_bound x 0 (by omega) (by rw [h0]; decide)
  rcases (by omega : x.toNat = 0 ∨ x.toNat = 1) with h | h
  · exact BitVec.eq_of_toNat_eq h
  · rw [show x = 1#32 from BitVec.eq_of_toNat_eq h] at h0
    exact absurd h0 (by decide)

theorem step0_injective (a b : BitVec 32) (h : step0 a = step0 b) : a = b :=
  BitVec.xor_eq_zero_iff.mp (step0_eq_zero _ (by rw [step0_linear, h, BitVec.xor_self]))

theorem bitv_xor (x y : Bool) : bitv (xor x y) = bitv x ^^^ bitv y := by
  cases x <;> cases y <;> decide

theorem feedBits_linear (a b : BitVec 32) (m e : List Bool) (h : m.length = e.length) :
    feedBits (a ^^^ b) (List.zipWith xor m e) = feedBits a m ^^^ feedBits b e := by
  induction m generalizing e a b with
  | nil => cases e <;> simp_all [feedBits]
  | cons x xs ih =>
    cases e with
    | nil => simp at h
    | cons y ys =>
      simp only [List.length_cons, Nat.add_right_cancel_iff] at h
      rw [List.zipWith_cons_cons, feedBits_cons, feedBits_cons, feedBits_cons, ← ih _ _ ys h]
      congr 1
      unfold feedBit
      rw [← step0_linear, bitv_xor]
      congr 1
      ac_rfl

theorem feedBits_append (c : BitVec 32) (x y : List Bool) :
    feedBits c (x ++ y) = feedBits (feedBits c x) y := by simp [feedBits]

theorem feedBits_injective (a b : BitVec 32) (bs : List Bool) (h : feedBits a bs = feedBits b bs) : a = b := by
  induction bs generalizing a b with
  | nil => exact h
  | cons x xs ih => exact (BitVec.xor_left_inj _).mp (step0_injective _ _ (ih _ _ h))

theorem burst_syndrome_ne_zero (k j : Nat) (rest : List Bool) (hr : rest.length ≤ 31) :
    feedBits 0#32 (List.replicate k false ++ (true :: rest) ++ List.replicate j false) ≠ 0#32 := by
  intro h
  -- leading zeros leave the register at 0, trailing zeros cannot bring a non-zero register to 0
  rw [feedBits_append, feedBits_append, feedBits_zeros] at h
  have hz := feedBits_injective _ _ _ (h.trans (feedBits_zeros j).symm)
  -- the leading 1 loads the polynomial, whose top bit is set; `rest` is too short to clear it
  rw [feedBits_cons, show feedBit 0#32 true = crcP by decide] at hz
  have hb := lt_two_pow_of_feedBits_eq_zero crcP rest (by omega) hz
  have hP := Nat.ge_two_pow_of_testBit crcP_msb
  have : 2 ^ rest.length ≤ 2 ^ 31 := Nat.pow_le_pow_right (by omega) hr
  omega

theorem stepN_linear (k : Nat) (a b : BitVec 32) : stepN k (a ^^^ b) = stepN k a ^^^ stepN k b := by
  induction k generalizing a b with
  | zero => rfl
  | succ k ih => simp only [stepN, step0_linear, ih]

theorem step0_of_lsb_false (x : BitVec 32) (h : x.getLsbD 0 = false) : step0 x = x >>> 1 := by
  unfold step0; simp only [h, Bool.false_eq_true, if_false]

theorem stepN_low_zero (k : Nat) (y : BitVec 32) (h : ∀ i, i < k → y.getLsbD i = false) :
    stepN k y = y >>> k := by
  induction k generalizing y with
  | zero => simp [stepN]
  | succ k ih =>
    simp only [stepN]
    rw [step0_of_lsb_false y (h 0 (by omega))]
    rw [ih (y >>> 1)]
    · rw [← BitVec.shiftRight_add, Nat.add_comm]
    · intro i hi
      rw [BitVec.getLsbD_ushiftRight]
      have := h (1 + i) (by omega)
      exact this

theorem bitv_eq (b : Bool) : bitv b = BitVec.ofNat 32 (if b then 1 else 0) :=
  (apply_ite (BitVec.ofNat 32) ..).symm

theorem feedBits_bitsLSB (c : BitVec 32) (k : Nat) (hk : k ≤ 32) (n : Nat) (hn : n < 2 ^ k) :
    feedBits c (bitsLSB k n) = stepN k (c ^^^ BitVec.ofNat 32 n) := by
  induction k generalizing c n with
  | zero =>
    have : n = 0 := by simpa using hn
    subst this; simp [bitsLSB, feedBits, stepN]
  | succ k ih =>
    have hn2 : n / 2 < 2 ^ k := by rw [Nat.pow_succ] at hn; omega
    rw [bitsLSB, feedBits_cons, stepN, ih _ (by omega) _ hn2]
    congr 1
    unfold feedBit
    -- the first step sees the low bit of `n` only: the rest of `n` is even and is just halved
    have hsplit : c ^^^ BitVec.ofNat 32 n
        = (c ^^^ bitv (n % 2 == 1)) ^^^ (BitVec.ofNat 32 n ^^^ bitv (n % 2 == 1)) := by
      rw [BitVec.xor_comm (BitVec.ofNat 32 n), ← BitVec.xor_assoc, BitVec.xor_assoc c, BitVec.xor_self, BitVec.xor_zero]
    have hlsb : (BitVec.ofNat 32 n ^^^ bitv (n % 2 == 1)).getLsbD 0 = false := by
      rw [BitVec.getLsbD_xor, BitVec.getLsbD_ofNat, Nat.testBit_zero]
      cases h : (n % 2 == 1) <;> simp [bitv] <;> simp_all
    have hn32 : n < 2 ^ 32 := Nat.lt_of_lt_of_le hn (Nat.pow_le_pow_right (by omega) hk)
    have hn232 : n / 2 < 2 ^ 32 := by omega
    have hshift : (BitVec.ofNat 32 n ^^^ bitv (n % 2 == 1)) >>> 1 = BitVec.ofNat 32 (n / 2) := by
      apply BitVec.eq_of_toNat_eq
      simp only [BitVec.toNat_ushiftRight, BitVec.toNat_xor, BitVec.toNat_ofNat, Nat.shiftRight_eq_div_pow,
        Nat.pow_one, Nat.mod_eq_of_lt hn32, Nat.mod_eq_of_lt hn232, Nat.xor_div_two]
      cases h : (n % 2 == 1) <;> simp [bitv]
    rw [hsplit, step0_linear (c ^^^ bitv (n % 2 == 1)), step0_of_lsb_false _ hlsb, hshift]

theorem ff_getLsbD (i : Nat) : (0xFF#32).getLsbD i = (decide (i < 32) && decide (i < 8)) := by
  rw [show (0xFF#32) = BitVec.ofNat 32 (2 ^ 8 - 1) from rfl, BitVec.getLsbD_ofNat, Nat.testBit_two_pow_sub_one]

/-- what `crc32_init` precomputes -/
theorem stepN8_table (x : BitVec 32) :
    stepN 8 x = (x >>> 8) ^^^ crcTableEntry (x &&& 0xFF#32).toNat := by
  -- x = low byte xor the rest; the rest has its low byte clear, so eight steps only shift it
  have hx : x = (x &&& 0xFF#32) ^^^ (x ^^^ (x &&& 0xFF#32)) := by
    rw [BitVec.xor_comm x, ← BitVec.xor_assoc, BitVec.xor_self, BitVec.zero_xor]
  have hlow : ∀ i, i < 8 → (x ^^^ (x &&& 0xFF#32)).getLsbD i = false := fun i hi => by
    rw [BitVec.getLsbD_xor, BitVec.getLsbD_and, ff_getLsbD]
    simp [hi, show i < 32 by omega]
  have hhigh : (x &&& 0xFF#32) >>> 8 = 0#32 := BitVec.eq_of_getLsbD_eq fun i hi => by simp [ff_getLsbD]
  conv => lhs; rw [hx]
  rw [stepN_linear, stepN_low_zero 8 _ hlow, BitVec.ushiftRight_xor_distrib, hhigh, BitVec.xor_zero]
  unfold crcTableEntry
  rw [BitVec.ofNat_toNat, BitVec.setWidth_eq, BitVec.xor_comm]

theorem crcUpdate_eq_feedBits (c : BitVec 32) (b : UInt8) :
    crcUpdate c b = feedBits c (bitsLSB 8 b.toNat) := by
  have hb := UInt8.toNat_lt b
  rw [feedBits_bitsLSB c 8 (by omega) b.toNat (by simpa using hb), stepN8_table]
  unfold crcUpdate
  congr 1
  apply BitVec.eq_of_toNat_eq
  simp only [BitVec.toNat_ushiftRight, BitVec.toNat_xor, BitVec.toNat_ofNat, Nat.shiftRight_eq_div_pow]
  have h1 : b.toNat % 2 ^ 32 = b.toNat := Nat.mod_eq_of_lt (by omega)
  rw [h1, Nat.xor_div_two_pow]
  have h2 : b.toNat / 2 ^ 8 = 0 := Nat.div_eq_of_lt (by simpa using hb)
  rw [h2]; simp

theorem crcRaw_eq_feedBits (c : BitVec 32) (bs : Bytes) : crcRaw c bs = feedBits c (bitsOf bs) := by
  induction bs generalizing c with
  | nil => rfl
  | cons b bs ih =>
    simp only [crcRaw, List.foldl_cons, bitsOf, List.flatMap_cons]
    rw [feedBits_append, ← crcUpdate_eq_feedBits]
    exact ih _

theorem bitsLSB_length (k n : Nat) : (bitsLSB k n).length = k := by
  induction k generalizing n with
  | zero => rfl
  | succ k ih => simp [bitsLSB, ih]

theorem bitsOf_length (bs : Bytes) : (bitsOf bs).length = 8 * bs.length := by
  induction bs with
  | nil => rfl
  | cons b bs ih => simp only [bitsOf, List.flatMap_cons, List.length_append, bitsLSB_length, List.length_cons] at *; omega

theorem bitsLSB_xor (k m n : Nat) :
    bitsLSB k (m ^^^ n) = List.zipWith xor (bitsLSB k m) (bitsLSB k n) := by
  induction k generalizing m n with
  | zero => rfl
  | succ k ih =>
    have h : ∀ j : Nat, (j % 2 == 1) = j.testBit 0 := fun j => by rw [Nat.testBit_zero]; rfl
    simp only [bitsLSB, List.zipWith_cons_cons, Nat.xor_div_two, ih, h, Nat.testBit_xor]

theorem bitsOf_xor (a e : Bytes) (h : a.length = e.length) :
    bitsOf (xorBytes a e) = List.zipWith xor (bitsOf a) (bitsOf e) := by
  induction a generalizing e with
  | nil => cases e <;> simp_all [bitsOf, xorBytes]
  | cons x xs ih =>
    cases e with
    | nil => simp at h
    | cons y ys =>
      simp only [List.length_cons, Nat.add_right_cancel_iff] at h
      simp only [xorBytes, List.zipWith_cons_cons, bitsOf, List.flatMap_cons]
      rw [List.zipWith_append (by simp [bitsLSB_length])]
      congr 1
      · rw [UInt8.toNat_xor, bitsLSB_xor]
      · exact ih ys h

theorem crcRaw_xor (a b : BitVec 32) (x e : Bytes) (h : x.length = e.length) :
    crcRaw (a ^^^ b) (xorBytes x e) = crcRaw a x ^^^ crcRaw b e := by
  rw [crcRaw_eq_feedBits, crcRaw_eq_feedBits, crcRaw_eq_feedBits, bitsOf_xor x e h]
  exact feedBits_linear a b _ _ (by rw [bitsOf_length, bitsOf_length, h])

/-- damage `e` goes unnoticed exactly when `e` alone leaves the register at 0, whatever the message -/
theorem crc32_xor (b e : Bytes) (h : b.length = e.length) : crc32 (xorBytes b e) = crc32 b ^^^ crcRaw 0#32 e := by
  have := crcRaw_xor (BitVec.ofNat 32 Gen.crcInit) 0#32 b e h
  rw [BitVec.xor_zero] at this
  unfold crc32
  rw [this]
  ac_rfl

end NanoVerif
