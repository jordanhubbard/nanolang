/-
The heap is an association list; with unique addresses a live cell splits it (`cells_split`), and every
lemma on counts here comes from that split.
-/
import NanoVerif.Model.Heap
namespace NanoVerif

def refsOf (vs : List Val) : List Nat := vs.filterMap Val.addr?

@[simp] theorem refsOf_nil : refsOf [] = [] := rfl
@[simp] theorem refsOf_append (a b : List Val) : refsOf (a ++ b) = refsOf a ++ refsOf b := by
  simp [refsOf]
theorem refsOf_cons (v : Val) (vs : List Val) :
    refsOf (v :: vs) = (match v.addr? with | some a => [a] | none => []) ++ refsOf vs := by
  unfold refsOf
  cases h : v.addr? <;> simp [h]

theorem count_refsOf_cons {v : Val} {a : Nat} (hv : v.addr? = some a) (l : List Val) (x : Nat) :
    (refsOf (v :: l)).count x = (refsOf l).count x + if x = a then 1 else 0 := by
  rw [refsOf_cons, hv, List.singleton_append, List.count_cons]
  by_cases hx : x = a
  · simp [hx]
  · simp [hx, Ne.symm hx]

theorem mem_refsOf {l : List Val} {v : Val} {a : Nat} (hm : v ∈ l) (ha : v.addr? = some a) : a ∈ refsOf l :=
  List.mem_filterMap.mpr ⟨v, hm, ha⟩

/-- all references held by live objects -/
def heapRefs (h : Heap) : List Nat := h.cells.flatMap fun p => refsOf p.2.obj.kids

def Heap.keys (h : Heap) : List Nat := h.cells.map (·.1)

theorem mem_heapRefs {h : Heap} {p : Nat × Cell} {v : Val} {a : Nat} (hp : p ∈ h.cells) (hm : v ∈ p.2.obj.kids)
    (ha : v.addr? = some a) : a ∈ heapRefs h :=
  List.mem_flatMap.mpr ⟨p, hp, mem_refsOf hm ha⟩

/-- Reference-count invariant: every live object's count is at least the number of references
    to it from the roots, from other live objects and from `extra` (values the C code holds in
    locals: popped operands, the release work list). -/
def RcInv (roots : List Val) (h : Heap) (extra : List Val) : Prop :=
  ∀ p ∈ h.cells, (refsOf roots ++ heapRefs h ++ refsOf extra).count p.1 ≤ p.2.rc

/-- no dangling reference: everything referenced is live -/
def Closed (roots : List Val) (h : Heap) (extra : List Val) : Prop :=
  ∀ a ∈ refsOf roots ++ heapRefs h ++ refsOf extra, a ∈ h.keys

theorem Closed_iff {roots : List Val} {h : Heap} {extra : List Val} :
    Closed roots h extra ↔ ∀ x, 0 < (refsOf roots ++ heapRefs h ++ refsOf extra).count x → x ∈ h.keys :=
  forall_congr' fun _ => by rw [List.count_pos_iff]

theorem Heap.get?_some_mem {h : Heap} {a : Nat} {c : Cell} (hg : h.get? a = some c) : (a, c) ∈ h.cells := by
  obtain ⟨p, hf, rfl⟩ := Option.map_eq_some_iff.mp hg
  have hp : p.1 = a := by simpa using List.find?_some hf
  exact hp ▸ List.mem_of_find?_eq_some hf

theorem Heap.mem_keys {h : Heap} {a : Nat} {c : Cell} (hm : (a, c) ∈ h.cells) : a ∈ h.keys :=
  List.mem_map.mpr ⟨(a, c), hm, rfl⟩

theorem Heap.get?_none_not_key {h : Heap} {a : Nat} (hg : h.get? a = none) : a ∉ h.keys := by
  unfold Heap.get? at hg
  simp only [Option.map_eq_none_iff, List.find?_eq_none] at hg
  intro hk
  obtain ⟨p, hp, rfl⟩ := List.mem_map.mp hk
  simpa using hg p hp

theorem Heap.mem_key_get? {h : Heap} {a : Nat} (hk : a ∈ h.keys) : ∃ c, h.get? a = some c := by
  cases hg : h.get? a with
  | some c => exact ⟨c, rfl⟩
  | none => exact absurd hk (Heap.get?_none_not_key hg)

theorem set_keys (h : Heap) (a : Nat) (c : Cell) : (h.set a c).keys = h.keys := by
  unfold Heap.keys Heap.set
  rw [List.map_map]
  apply List.map_congr_left
  intro p _
  by_cases hp : p.1 = a <;> simp [hp]

theorem erase_keys_sublist (h : Heap) (a : Nat) : (h.erase a).keys.Sublist h.keys :=
  List.Sublist.map _ List.filter_sublist

theorem alloc_keys (h : Heap) (o : Obj) : (h.alloc o).1.keys = h.keys ++ [h.next] := by
  simp [Heap.keys, Heap.alloc]

theorem Heap.mem_set {h : Heap} {a : Nat} {c : Cell} {p : Nat × Cell} (hp : p ∈ (h.set a c).cells) :
    p = (a, c) ∨ p ∈ h.cells := by
  obtain ⟨q, hq, rfl⟩ := List.mem_map.mp hp
  split
  · exact .inl rfl
  · exact .inr hq

theorem alloc_nodup_fresh {h : Heap} (o : Obj) (hn : h.keys.Nodup) (hfresh : ∀ k ∈ h.keys, k < h.next) :
    (h.alloc o).1.keys.Nodup ∧ ∀ k ∈ (h.alloc o).1.keys, k < (h.alloc o).1.next := by
  rw [alloc_keys]
  refine ⟨List.nodup_append.mpr ⟨hn, List.pairwise_singleton _ _, fun x hx y hy e => ?_⟩, fun k hk => ?_⟩
  · cases List.mem_singleton.mp hy; exact Nat.lt_irrefl _ (e ▸ hfresh x hx)
  · rcases List.mem_append.mp hk with hk | hk
    · exact Nat.lt_succ_of_lt (hfresh k hk)
    · cases List.mem_singleton.mp hk; exact Nat.lt_succ_self _

/-- a live cell splits the heap in two parts without its address; `set` and `erase` there touch the middle only -/
theorem cells_split {h : Heap} (hn : h.keys.Nodup) {a : Nat} {c : Cell} (hm : (a, c) ∈ h.cells) :
    ∃ l1 l2, h.cells = l1 ++ (a, c) :: l2 ∧ (∀ c', (h.set a c').cells = l1 ++ (a, c') :: l2) ∧
      (h.erase a).cells = l1 ++ l2 ∧ ∀ p ∈ l1 ++ l2, p.1 ≠ a := by
  obtain ⟨l1, l2, e⟩ := List.append_of_mem hm
  rw [Heap.keys, e, List.map_append, List.map_cons, List.nodup_append, List.nodup_cons] at hn
  obtain ⟨_, ⟨ha2, _⟩, ha1⟩ := hn
  have hne : ∀ p ∈ l1 ++ l2, p.1 ≠ a := fun p hp hpa => (List.mem_append.mp hp).elim
    (fun hp => ha1 _ (List.mem_map_of_mem hp) a (by simp) hpa) (fun hp => ha2 (List.mem_map.mpr ⟨p, hp, hpa⟩))
  have h1 : ∀ p ∈ l1, p.1 ≠ a := fun p hp => hne p (List.mem_append_left _ hp)
  have h2 : ∀ p ∈ l2, p.1 ≠ a := fun p hp => hne p (List.mem_append_right _ hp)
  have hmap : ∀ c' (l : List (Nat × Cell)), (∀ p ∈ l, p.1 ≠ a) → l.map (fun p => if p.1 == a then (a, c') else p) = l :=
    fun c' l hl => (List.map_congr_left fun p hp => by simp [hl p hp]).trans (List.map_id' l)
  have hfil : ∀ l : List (Nat × Cell), (∀ p ∈ l, p.1 ≠ a) → l.filter (fun p => p.1 != a) = l :=
    fun l hl => List.filter_eq_self.mpr fun p hp => by simpa using hl p hp
  refine ⟨l1, l2, e, fun c' => ?_, ?_, hne⟩
  · simp only [Heap.set, e, List.map_append, List.map_cons, beq_self_eq_true, if_true, hmap c' l1 h1, hmap c' l2 h2]
  · simp [Heap.erase, e, List.filter_append, hfil l1 h1, hfil l2 h2]

theorem mem_cells_unique {h : Heap} (hn : h.keys.Nodup) {a : Nat} {c c' : Cell} (hc : (a, c) ∈ h.cells)
    (hc' : (a, c') ∈ h.cells) : c' = c := by
  obtain ⟨l1, l2, e, -, -, hne⟩ := cells_split hn hc
  rw [e, List.mem_append, List.mem_cons] at hc'
  rcases hc' with h1 | h1 | h1
  · exact absurd rfl (hne _ (List.mem_append_left _ h1))
  · exact (Prod.mk.inj h1).2
  · exact absurd rfl (hne _ (List.mem_append_right _ h1))

theorem Heap.get?_of_mem {h : Heap} (hn : h.keys.Nodup) {a : Nat} {c : Cell} (hm : (a, c) ∈ h.cells) : h.get? a = some c := by
  obtain ⟨c', hg⟩ := Heap.mem_key_get? (Heap.mem_keys hm)
  rw [hg, mem_cells_unique hn hm (Heap.get?_some_mem hg)]

/-! Each lemma below asks for one inequality per address `x`: the new holder (and the new object) refer to `x` no
more often than the old ones did, where a change of the count of the cell at `x` itself makes up for the difference. -/

section
variable {roots : List Val} {h : Heap} {extra extra' : List Val}

theorem mono_inv {roots' : List Val}
    (hle : ∀ x, (refsOf roots' ++ refsOf extra').count x ≤ (refsOf roots ++ refsOf extra).count x)
    (hi : RcInv roots h extra) (hc : Closed roots h extra) : RcInv roots' h extra' ∧ Closed roots' h extra' := by
  have hcnt : ∀ x, (refsOf roots' ++ heapRefs h ++ refsOf extra').count x ≤ (refsOf roots ++ heapRefs h ++ refsOf extra).count x := by
    intro x; have := hle x; simp only [List.count_append] at this ⊢; omega
  rw [Closed_iff] at hc ⊢
  exact ⟨fun p hp => Nat.le_trans (hcnt p.1) (hi p hp), fun x hx => hc x (Nat.lt_of_lt_of_le hx (hcnt x))⟩

theorem set_inv {a : Nat} {c c' : Cell}
    (hn : h.keys.Nodup) (hm : (a, c) ∈ h.cells)
    (hle : ∀ x, (refsOf c'.obj.kids).count x + (refsOf extra').count x + (if x = a then c.rc else 0)
              ≤ (refsOf c.obj.kids).count x + (refsOf extra).count x + (if x = a then c'.rc else 0))
    (hi : RcInv roots h extra) (hc : Closed roots h extra) :
    RcInv roots (h.set a c') extra' ∧ Closed roots (h.set a c') extra' := by
  obtain ⟨l1, l2, e, es, -, hne⟩ := cells_split hn hm
  have hcnt : ∀ x, (refsOf roots ++ heapRefs (h.set a c') ++ refsOf extra').count x + (if x = a then c.rc else 0)
      ≤ (refsOf roots ++ heapRefs h ++ refsOf extra).count x + (if x = a then c'.rc else 0) := by
    intro x; have := hle x
    simp only [heapRefs, e, es, List.flatMap_append, List.flatMap_cons, List.count_append]; omega
  constructor
  · intro p hp
    rw [es, List.mem_append, List.mem_cons] at hp
    have := hcnt p.1
    rcases hp with hp | rfl | hp
    · have := hi p (by simp [e, hp]); simp only [hne p (by simp [hp]), if_false] at *; omega
    · have := hi (a, c) hm; simp only [if_true] at *; omega
    · have := hi p (by simp [e, hp]); simp only [hne p (by simp [hp]), if_false] at *; omega
  · rw [Closed_iff] at hc ⊢
    intro x hx
    rw [set_keys]
    by_cases hxa : x = a
    · exact hxa ▸ Heap.mem_keys hm
    · have := hcnt x; simp only [hxa, if_false] at this; exact hc x (by omega)

theorem erase_inv {a : Nat} {c : Cell}
    (hn : h.keys.Nodup) (hm : (a, c) ∈ h.cells)
    (hle : ∀ x, (refsOf extra').count x + (if x = a then c.rc else 0) ≤ (refsOf c.obj.kids).count x + (refsOf extra).count x)
    (hi : RcInv roots h extra) (hc : Closed roots h extra) :
    RcInv roots (h.erase a) extra' ∧ Closed roots (h.erase a) extra' := by
  obtain ⟨l1, l2, e, -, es, -⟩ := cells_split hn hm
  have hcnt : ∀ x, (refsOf roots ++ heapRefs (h.erase a) ++ refsOf extra').count x + (if x = a then c.rc else 0)
      ≤ (refsOf roots ++ heapRefs h ++ refsOf extra).count x := by
    intro x; have := hle x
    simp only [heapRefs, e, es, List.flatMap_append, List.flatMap_cons, List.count_append]; omega
  constructor
  · intro p hp
    have := hcnt p.1; have := hi p (List.mem_filter.mp hp).1; omega
  · rw [Closed_iff] at hc ⊢
    intro x hx
    have := hcnt x
    -- nothing refers to `a` any more
    have hxa : x ≠ a := by
      rintro rfl; have := hi (x, c) hm; simp only [if_true] at *; omega
    obtain ⟨p, hp, rfl⟩ := List.mem_map.mp (hc x (by omega))
    exact List.mem_map.mpr ⟨p, List.mem_filter.mpr ⟨hp, by simpa using hxa⟩, rfl⟩

/-- `vm_array_new`, `vm_struct_new`, … (rc = 1) -/
theorem alloc_inv (o : Obj) (hfresh : ∀ k ∈ h.keys, k < h.next)
    (hle : ∀ x, (refsOf o.kids).count x + (refsOf extra').count x ≤ (refsOf extra).count x + if x = h.next then 1 else 0)
    (hi : RcInv roots h extra) (hc : Closed roots h extra) :
    RcInv roots (h.alloc o).1 extra' ∧ Closed roots (h.alloc o).1 extra' := by
  have hcnt : ∀ x, (refsOf roots ++ heapRefs (h.alloc o).1 ++ refsOf extra').count x
      ≤ (refsOf roots ++ heapRefs h ++ refsOf extra).count x + if x = h.next then 1 else 0 := by
    intro x; have := hle x
    simp only [heapRefs, Heap.alloc, List.flatMap_append, List.flatMap_cons, List.flatMap_nil, List.append_nil, List.count_append]
    omega
  rw [Closed_iff] at hc ⊢
  -- the new address was referenced nowhere
  have hnew : (refsOf roots ++ heapRefs h ++ refsOf extra).count h.next = 0 :=
    Nat.eq_zero_of_not_pos fun hp => Nat.lt_irrefl _ (hfresh _ (hc _ hp))
  constructor
  · intro p hp
    have := hcnt p.1
    rcases List.mem_append.mp hp with hp | hp
    · have hne : p.1 ≠ h.next := fun e => Nat.lt_irrefl _ (e ▸ hfresh _ (List.mem_map_of_mem hp))
      have := hi p hp; simp only [hne, if_false] at *; omega
    · cases List.mem_singleton.mp hp; simp only [if_true] at *; omega
  · intro x hx
    rw [alloc_keys, List.mem_append, List.mem_singleton]
    by_cases hxn : x = h.next
    · exact Or.inr hxn
    · have := hcnt x; simp only [hxn, if_false] at this; exact Or.inl (hc x (by omega))

end

theorem release_inv (roots : List Val) (h : Heap) (ws : List Val) :
    ∀ extra, h.keys.Nodup → RcInv roots h (ws ++ extra) → Closed roots h (ws ++ extra) →
      RcInv roots (h.release ws) extra ∧ Closed roots (h.release ws) extra ∧ (h.release ws).keys.Nodup
        ∧ (h.release ws).dangling = h.dangling ∧ (h.release ws).next = h.next := by
  fun_induction Heap.release h ws with
  | case1 h => intro extra hn hi hc; exact ⟨hi, hc, hn, rfl, rfl⟩
  | case2 h v ws hv ih =>
    intro extra hn hi hc
    unfold RcInv at hi; unfold Closed at hc
    rw [List.cons_append, refsOf_cons, hv] at hi hc
    exact ih extra hn hi hc
  | case3 h v ws a hv hg ih =>
    -- the address is not live: impossible under `Closed`
    intro extra hn hi hc
    exact absurd (hc a (by simp [refsOf_cons, hv])) (Heap.get?_none_not_key hg)
  | case4 h v ws a hv c hg hrc ih =>
    -- `v` was the last reference to `a`; the children of `a` pass to the work list
    intro extra hn hi hc
    have ⟨hi', hc'⟩ := erase_inv (extra' := c.obj.kids ++ ws ++ extra) hn (Heap.get?_some_mem hg) (fun x => by
      by_cases hx : x = a <;> simp [count_refsOf_cons hv, List.count_append, hx] <;> omega) hi hc
    exact ih extra ((erase_keys_sublist h a).nodup hn) (by simpa using hi') (by simpa using hc')
  | case5 h v ws a hv c hg hrc ih =>
    intro extra hn hi hc
    have ⟨hi', hc'⟩ := set_inv (c' := { c with rc := c.rc - 1 }) (extra' := ws ++ extra) hn (Heap.get?_some_mem hg) (fun x => by
      by_cases hx : x = a <;> simp [count_refsOf_cons hv, List.count_append, hx] <;> omega) hi hc
    exact ih extra (by rw [set_keys]; exact hn) hi' hc'

end NanoVerif
