/-
`return e` at the end of a function body, the module `compileProgram` assembles for a program that consists of
`main` alone, and `execute` on that module.
-/
import NanoVerif.Lemmas.CompileStmt

namespace NanoVerif
open Gen

theorem doRet_outer (s : VmState) (fr : Frame) (L : Nat) (v : Val) (pre : List Val)
    (hfr : s.frames = [fr]) (hst : s.stack = pre ++ [v]) (hlen : pre.length = fr.stackBase + L) (hL : fr.localCount = L)
    (h32 : fr.stackBase + L < 4294967296)
    (hin : ∀ j u, fr.stackBase ≤ j → pre[j]? = some u → Val.inert u) (hcl : fr.closure = none) :
    doRet s false = ({ s with toCore := { s.toCore with stack := pre.take fr.stackBase ++ [v] }, frames := [] }, .done) := by
  unfold doRet
  simp only [hfr]
  have hu : u32 (fr.stackBase + fr.localCount) = fr.stackBase + L := by rw [hL]; unfold u32; omega
  have hgt : s.stack.length > u32 (fr.stackBase + fr.localCount) := by rw [hu, hst]; simp; omega
  simp only [hgt, if_true, pop_append s.toCore pre v hst, hcl]
  unfold unwindTo
  simp only
  by_cases hb : pre.length > fr.stackBase
  · simp only [hb, if_true]
    have hrel : s.heap.release (pre.drop fr.stackBase).reverse = s.heap := by
      apply release_all_inert
      intro u hu'
      have hu2 : u ∈ pre.drop fr.stackBase := by simpa using hu'
      obtain ⟨i, hi⟩ := List.getElem?_of_mem hu2
      rw [List.getElem?_drop] at hi
      exact hin (fr.stackBase + i) u (by omega) hi
    simp only [hrel, Core.push]
  · simp only [hb, if_false, Core.push]
    have : pre.take fr.stackBase = pre := List.take_of_length_le (by omega)
    rw [this]

/-- a function body of the fragment that ends with `return e` -/
inductive BodyR : List Stmt → Prop
  | ret (e : Expr) : PureE e → BodyR [.ret (some e)]
  | letS (x : String) (mu : Bool) (ty : Ty) (e : Expr) (r : List Stmt) : PureE e → BodyR r → BodyR (.letS x mu ty e :: r)
  | stmt (st : Stmt) (r : List Stmt) : StmtF st → BodyR r → BodyR (st :: r)

theorem bodyR_split {ss : List Stmt} (hb : BodyR ss) : ∃ pre e, ss = pre ++ [.ret (some e)] ∧ BodyF pre ∧ PureE e := by
  induction hb with
  | ret e he => exact ⟨[], e, rfl, .nil, he⟩
  | letS x mu ty e r he _ ih =>
    obtain ⟨pre, e', rfl, hp, he'⟩ := ih
    exact ⟨_ :: pre, e', rfl, .letS x mu ty e pre he hp, he'⟩
  | stmt st r hst _ ih =>
    obtain ⟨pre, e', rfl, hp, he'⟩ := ih
    exact ⟨st :: pre, e', rfl, .stmt st pre hst hp, he'⟩

theorem bodyR_inv {ce : CE} {cs cs' : CS} {d : Nat} {ss : List Stmt} {code : List PI} (hb : BodyR ss)
    (h : cStmts ce cs d ss = .ok (cs', code)) :
    ∃ pre e c1 c, ss = pre ++ [.ret (some e)] ∧ BodyF pre ∧ PureE e ∧ cStmts ce cs d pre = .ok (cs', c1) ∧
      cExpr ce cs' e = .ok (cs', c) ∧ code = c1 ++ (c ++ [ins .RET]) := by
  obtain ⟨pre, e, rfl, hpre, he⟩ := bodyR_split hb
  obtain ⟨cs1, c1, c2, h1, h2, rfl⟩ := cStmts_append_inv h
  obtain ⟨cs2, c3, c4, h3, h4, rfl⟩ := cStmts_cons_inv h2
  cases cStmts_nil.symm.trans h4
  obtain ⟨c, hc, rfl⟩ := cStmt_ret_inv h3
  obtain rfl := cExpr_pure_cs ce e he cs1 cs' c hc
  exact ⟨pre, e, c1, c, rfl, hpre, he, h1, hc, by rw [List.append_nil]⟩

/-- the last byte of the code of such a body is the `RET` opcode.  (`cFunction` tests the last statement, not this
    byte, to decide whether to append `PUSH_VOID; RET`.) -/
theorem bodyR_ends_ret (ce : CE) (ss : List Stmt) (hb : BodyR ss) :
    ∀ (cs cs' : CS) (d : Nat) (code : List PI) (bs : Bytes), cStmts ce cs d ss = .ok (cs', code) → encodeAll code = some bs →
      bs.getLast? = some (UInt8.ofNat Opc.RET.toByte) := by
  intro cs cs' d code bs h henc
  obtain ⟨pre, e, c1, c, rfl, _, _, _, _, rfl⟩ := bodyR_inv hb h
  obtain ⟨b1, b2, _, hb2, rfl⟩ := encodeAll_append _ _ _ henc
  obtain ⟨b3, b4, _, hb4, rfl⟩ := encodeAll_append _ _ _ hb2
  have h4 : encode ⟨Opc.RET.toByte, []⟩ = some [UInt8.ofNat Opc.RET.toByte] := by decide
  cases (encodeAll_single _ _ _ hb4).symm.trans h4
  simp

theorem bodyR_sim (m : Module) (ce : CE) (p : Program) (L : Nat) (ss : List Stmt) (hb : BodyR ss)
    (cs cs' : CS) (code : List PI) (d fuel : Nat) (loc loc' : Sem.Locals) (g g' : Sem.GState) (fl : Sem.Flow)
    (s : VmState) (fr : Frame)
    (hc : cStmts ce cs d ss = .ok (cs', code)) (hs : Sem.execStmts Sem.vmCfg p fuel loc g ss = .ok (fl, loc', g'))
    (hfr : s.frames = [fr]) (hLc : fr.localCount = L) (hcl : fr.closure = none) (hb0 : fr.stackBase = 0)
    (hp : Placed m s.curFn s.ip code) (hinv : StInv ce cs loc g fr L s)
    (hL : cs'.locals.length ≤ L) (h32 : fr.stackBase + L < 4294967296) :
    ∃ w v s1 sf, fl = .ret w ∧ VRel w v ∧ Runs m s s1 ∧ step m s1 = (sf, .done) ∧ sf.out = g'.out ∧ sf.stack = [v] := by
  obtain ⟨pre, e, c1, c, rfl, hpre, he, h1, hce, rfl⟩ := bodyR_inv hb hc
  obtain ⟨fl1, loc1, g1, hs1, hs2⟩ := execStmts_append_inv hs
  obtain ⟨rfl, tr⟩ := body_sim m ce p L pre hpre cs cs' c1 d fuel loc loc1 g g1 fl1 fr h1 hs1 hL h32
  obtain ⟨hp1, hp2⟩ := hp.append
  obtain ⟨k1, hip1, hrun1, hinv1⟩ := tr s [] hfr hp1 hinv
  obtain ⟨hpe, bret, hbret, hcret⟩ := (hip1 ▸ hp2).append
  obtain ⟨f1, fl2, loc2, g2, _, hst, _, hres⟩ := execStmts_cons_inv (hs2 rfl)
  obtain ⟨f2, w, rfl, hev, rfl, rfl⟩ := execStmt_ret_inv hst
  cases hres (by simp)
  -- the value, then `RET` in the outermost frame
  obtain ⟨rfl, v, hv, hrun2⟩ := cExpr_sim m ce p e he cs' cs' c f2 loc' g1 g' w { s with toCore := k1 } fr [] hce hev hfr hpe hinv1.env
  have hstep := (step_at (s := advS { s with toCore := k1 } (k1.ip + codeSize c) (k1.stack ++ [v])) (fr := fr) (frs := [])
    hfr hcret (encodeAll_single _ _ _ hbret) (wf0 _ (by decide))).trans
    (doRet_outer _ fr L v k1.stack hfr rfl hinv1.len hLc h32 hinv1.inert hcl)
  exact ⟨w, v, _, _, rfl, hv, hrun1.trans hrun2, hstep, hinv1.out, by simp [hb0]⟩

def mainCE (rt : Ty) : CE := { fns := [("main", 0)], fnRet := [("main", rt)] }

theorem compileProgram_main (rt : Ty) (body : List Stmt) :
    compileProgram [.fn "main" [] rt body] =
      match cFunction (mainCE rt) [stringToBytes "main"] [] body with
      | .error er => .error er
      | .ok (ss, bytes, nloc) =>
        .ok { flags := flagHasMain, entryPoint := 0, strings := ss,
              functions := [{ nameIdx := 0, arity := 0, codeOffset := 0, codeLength := bytes.length, localCount := nloc % 65536, upvalueCount := 0 }],
              code := bytes } := by
  unfold compileProgram
  have hd : hasDupFn [Item.fn "main" [] rt body] = false := by
    simp [hasDupFn]
    decide
  have hp1 : pass1 [Item.fn "main" [] rt body] {} {} =
      .ok (mainCE rt, { strings := [stringToBytes "main"], functions := [{ nameIdx := 0, arity := 0, codeOffset := 0, codeLength := 0, localCount := 0, upvalueCount := 0 }], code := [] }) := by
    simp [pass1, addString, mainCE, cgMaxFunctions]
  have hff : (mainCE rt).fnFind "main" = some 0 := by simp [CE.fnFind, mainCE]
  have hg : ¬ ((mainCE rt).globals.length > 0) := by simp [mainCE]
  simp only [hd, Bool.false_eq_true, if_false, hp1, hg, pass2, hff]
  cases cFunction (mainCE rt) [stringToBytes "main"] [] body with
  | error er => rfl
  | ok r => rfl

theorem cFunction_bodyR (ce : CE) (strings : List Bytes) (body : List Stmt) (hb : BodyR body)
    (ss : List Bytes) (bytes : Bytes) (nloc : Nat) (h : cFunction ce strings [] body = .ok (ss, bytes, nloc)) :
    ∃ cs1 code, cStmts ce { strings := strings, locals := [] } 0 body = .ok (cs1, code) ∧ encodeAll code = some bytes ∧
      nloc = cs1.locals.length ∧ ss = strings ∧ nloc ≤ cgMaxLocals := by
  unfold cFunction at h
  simp only [List.map_nil, List.length_nil] at h
  rw [if_neg (by decide)] at h
  cases hc : cStmts ce { strings := strings, locals := [] } 0 body with
  | error er => simp [hc] at h
  | ok r =>
    obtain ⟨cs1, code⟩ := r
    simp only [hc] at h
    cases he : encodeAll code with
    | none => simp [he] at h
    | some bs =>
      -- the body ends with a `return`, so no `PUSH_VOID; RET` is appended
      obtain ⟨pre, e, c1, c, rfl, hpre, _, hc1, _, _⟩ := bodyR_inv hb hc
      simp only [he, List.getLast?_append, List.getLast?_singleton, Option.some_or] at h
      simp only [Bool.false_eq_true, if_false, List.append_nil, Except.ok.injEq, Prod.mk.injEq] at h
      obtain ⟨h1, h2, h3⟩ := h
      obtain ⟨_, hs, hl⟩ := body_cs ce pre hpre _ cs1 0 c1 hc1
      exact ⟨cs1, code, rfl, by rw [← h2]; exact he, h3.symm, by rw [← h1, hs], by rw [← h3]; exact hl (by simp)⟩

theorem main_not_init : ((some (stringToBytes "main")).map cstr == some (strLit "__init__")) = false := by decide +kernel

theorem main_program_sim (rt : Ty) (body : List Stmt) (hb : BodyR body) (m : Module)
    (hc : compileProgram [.fn "main" [] rt body] = .ok m) (hsmall : m.code.length < 2147483648)
    (fuel : Nat) (fl : Sem.Flow) (loc' : Sem.Locals) (g' : Sem.GState)
    (hs : Sem.execStmts Sem.vmCfg [.fn "main" [] rt body] fuel [] {} body = .ok (fl, loc', g')) :
    ∃ w v n sf, fl = .ret w ∧ VRel w v ∧ (∀ k, execute m (n + 1 + k) = (sf, .done)) ∧ sf.out = g'.out ∧ sf.stack = [v] := by
  rw [compileProgram_main] at hc
  split at hc
  · cases hc
  rename_i ss bytes nloc hcf
  obtain ⟨cs1, code, hcs, henc, rfl, rfl, hmax⟩ := cFunction_bodyR _ _ body hb ss bytes nloc hcf
  have hmod : cs1.locals.length % 65536 = cs1.locals.length := by
    have : cgMaxLocals ≤ 65535 := by decide
    omega
  rw [hmod] at hc
  cases hc
  -- the state `vm_call_function` sets up
  let fr : Frame := { fnIdx := 0, returnIp := 0, stackBase := 0, localCount := cs1.locals.length, closure := none }
  let s1 : VmState := { stack := List.replicate cs1.locals.length Val.void, frames := [fr], curFn := 0, ip := 0 }
  have hinv : StInv (mainCE rt) { strings := [stringToBytes "main"], locals := [] } [] {} fr cs1.locals.length s1 :=
    StInv.entry _ _ _ _ _ (by simp [s1, fr]) rfl
  have hat : CodeAt _ s1.curFn s1.ip bytes :=
    ⟨⟨_, rfl, Nat.le_refl _, by simp [s1], by simp, hsmall⟩, [], by simp [s1]⟩
  obtain ⟨w, v, s2, sf, hfl, hv, hrun, hstep, hout, hstk⟩ :=
    bodyR_sim _ (mainCE rt) _ cs1.locals.length body hb _ cs1 code 0 fuel [] loc' {} g' fl s1 fr hcs hs rfl rfl rfl rfl
      ⟨bytes, henc, hat⟩ hinv (Nat.le_refl _) (by have : cgMaxLocals < 4294967296 := by decide
                                                  simp [fr]; omega)
  obtain ⟨n, hn⟩ := hrun.loop_done hstep
  refine ⟨w, v, n, sf, hfl, hv, fun k => ?_, hout, hstk⟩
  -- `execute` on this module: no `__init__`, main flag set, so it is `callFunction 0`, which builds `s1`
  unfold execute
  have hinit : initFn { flags := flagHasMain, entryPoint := 0, strings := [stringToBytes "main"],
                        functions := [{ nameIdx := 0, arity := 0, codeOffset := 0, codeLength := bytes.length,
                                        localCount := cs1.locals.length, upvalueCount := 0 }],
                        code := bytes } = none := by
    unfold initFn
    simp only [List.findIdx?_cons, List.getElem?_cons_zero, main_not_init, Bool.false_eq_true, if_false]
    rfl
  have hflag : (flagHasMain % 2 == 0) = false := by decide
  have hfrm : ¬ (0 ≥ Gen.vmMaxFrames) := by decide
  simp only [hflag, Bool.false_eq_true, if_false, List.length_cons, List.length_nil, hinit, callFunction,
    List.getElem?_cons_zero, hfrm]
  rw [if_neg (by omega)]
  exact hn k

theorem runProgram_main (rt : Ty) (body : List Stmt) (fuel : Nat) (o : Sem.Obs)
    (h : Sem.runProgram Sem.vmCfg [.fn "main" [] rt body] (fuel + 2) = o) :
    (∃ f g, Sem.execStmts Sem.vmCfg [.fn "main" [] rt body] (fuel + 1) [] {} body = .error (f, g) ∧ o = ⟨g.out, .fault f⟩) ∨
    (∃ fl loc g, Sem.execStmts Sem.vmCfg [.fn "main" [] rt body] (fuel + 1) [] {} body = .ok (fl, loc, g) ∧
       o = ⟨g.out, match fl with | .ret (.int i) => .exit (i % 256).toNat | _ => .exit 0⟩) := by
  simp only [Sem.runProgram, Sem.initGlobals, Sem.evalExpr, Sem.evalArgs] at h
  have hb : Sem.builtin "main" [] ({} : Sem.GState) = none := by rfl
  have hn : Sem.isBuiltinName "main" = false := rfl
  have hf : Sem.findFn [Item.fn "main" [] rt body] "main" = some ([], body) := rfl
  simp only [hb, hn, hf, Bool.false_eq_true, if_false, List.length_nil, bne_self_eq_false, List.map_nil, List.zip_nil_left, List.reverse_nil] at h
  cases hs : Sem.execStmts Sem.vmCfg [.fn "main" [] rt body] (fuel + 1) [] {} body with
  | error er =>
    obtain ⟨f, g⟩ := er
    simp only [hs] at h
    exact Or.inl ⟨f, g, rfl, h.symm⟩
  | ok r =>
    obtain ⟨fl, loc, g⟩ := r
    simp only [hs] at h
    refine Or.inr ⟨fl, loc, g, rfl, ?_⟩
    rw [← h]
    cases fl with
    | ret v => cases v <;> rfl
    | _ => rfl

end NanoVerif
