/-
A concrete instance of the hypotheses of `C01.compile_main_correct` (non-vacuity): the program
    fn main() -> int { let mut x: int = 5  while (< x 7) { set x (+ x 1) }  (println x)  return x }
goes through `compileProgram`, and the reference runs it to exit status 7 with output "7\n".
-/
import NanoVerif.Lemmas.CompileMain
import NanoVerif.Lemmas.CompileStmtExample
namespace NanoVerif.CompileEx3
open NanoVerif Gen CompileEx2

def body : List Stmt :=
  [.letS "x" true .int (.num 5),
   .whileS (.prefixOp .T_LT [.ident "x", .num 7]) [.setS "x" (.prefixOp .T_PLUS [.ident "x", .num 1])],
   .printS true (.ident "x"),
   .ret (some (.ident "x"))]
def prog : Program := [.fn "main" [] .int body]
def cs1 : CS := { strings := [stringToBytes "main"], locals := [{ name := "x", ty := some .int }] }
def code : List PI := CompileEx2.code ++ (([loadIdx .LOAD_LOCAL 0] ++ [ins .RET]) ++ [])

theorem compiles (ce : CE) : cStmts ce { strings := [stringToBytes "main"] } 0 body = .ok (cs1, code) :=
  cStmts_append (compiles_at ce _)
    (cStmts_cons (cStmt_ret (cExpr_ident_local ce cs1 "x" 0 (by decide))) cStmts_nil)

theorem bodyR : BodyR body :=
  .letS _ _ _ _ _ (.num 5) (.stmt _ _ whileF (.stmt _ _ (.print true _ (.ident "x")) (.ret _ (.ident "x"))))

def bytes : Bytes := [1, 5, 0, 0, 0, 0, 0, 0, 0, 17, 0, 0, 16, 0, 0, 1, 7, 0, 0, 0, 0, 0, 0, 0, 42, 58, 26, 0, 0, 0, 16, 0, 0, 1, 1, 0,
 0, 0, 0, 0, 0, 0, 32, 17, 0, 0, 56, 222, 255, 255, 255, 16, 0, 0, 164, 16, 0, 0, 61]
theorem encodes : encodeAll code = some bytes := by decide

def m : Module :=
  { flags := flagHasMain, entryPoint := 0, strings := [stringToBytes "main"],
    functions := [{ nameIdx := 0, arity := 0, codeOffset := 0, codeLength := 59, localCount := 1, upvalueCount := 0 }],
    code := bytes }

theorem cfun : cFunction (mainCE .int) [stringToBytes "main"] [] body = .ok ([stringToBytes "main"], bytes, 1) := by
  unfold cFunction
  simp only [List.map_nil, List.length_nil]
  rw [if_neg (by decide)]
  simp only [compiles (mainCE .int), encodes]
  rfl

theorem compileProgram_ok : compileProgram prog = .ok m := by
  rw [prog, compileProgram_main, cfun]
  rfl

theorem runs : Sem.runProgram Sem.vmCfg prog (20 + 2) = ⟨[55, 10], .exit 7⟩ := by
  with_unfolding_all rfl

end NanoVerif.CompileEx3
