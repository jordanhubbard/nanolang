/-
The statement fragment `StmtF` and function bodies `BodyF`.  Statements are related to code by `Tr`: from every
machine state that represents the reference state before, the code runs to its end and reaches one that
represents the reference state after.
-/
import NanoVerif.Lemmas.CompileExpr
import NanoVerif.Lemmas.ListAux

namespace NanoVerif
open Gen

theorem strLit_true : strLit "true" = [116, 114, 117, 101] := by decide +kernel
theorem strLit_false : strLit "false" = [102, 97, 108, 115, 101] := by decide +kernel

theorem fmtVal_rel (h : Heap) (n : Nat) (path : List Nat) (w : Sem.SVal) (v : Val) (hv : VRel w v) :
    fmtVal h (n + 1) path v = some (Sem.fmtSVal w) := by
  cases hv with
  | int x => simp [fmtVal, Sem.fmtSVal, intToDec, Sem.decBytes]
  | bool b => cases b <;> simp [fmtVal, Sem.fmtSVal, strLit_true, strLit_false]

section handlers
variable (m : Module) (fr : Frame) (c : Core) (is : Nat) (st : List Val)

theorem ed_store_local (k : Nat) (v old : Val)
    (hk : fr.stackBase + k < 4294967296) (hs : c.stack = st ++ [v]) (hlt : fr.stackBase + k < st.length)
    (hold : st[fr.stackBase + k]? = some old) (hin : Val.inert old) :
    execData' m fr c is .STORE_LOCAL [k] = ({ c with stack := st.set (fr.stackBase + k) v }, .running) := by
  have hu : u32 (fr.stackBase + k) = fr.stackBase + k := by unfold u32; omega
  have hlen : c.stack.length = st.length + 1 := by rw [hs]; simp
  have hg : st.getD (fr.stackBase + k) v = old := by
    rw [List.getD_eq_getElem?_getD, hold]; rfl
  dsimp only [execData']
  simp only [List.getD_cons_zero, hu]
  rw [if_neg (by omega), pop_append c st v hs]
  dsimp only
  rw [hg, core_release_inert _ _ hin]
  simp only [hlt, if_true]
  rfl

theorem ed_print (w : Sem.SVal) (v : Val) (ln : Bool) (hv : VRel w v) (hs : c.stack = st ++ [v]) :
    execData' m fr c is (if ln then .PRINTLN else .PRINT) [] =
      ({ c with stack := st, out := c.out ++ (Sem.fmtSVal w ++ (if ln then [10] else [])) }, .running) := by
  cases ln
  all_goals
    simp only [Bool.false_eq_true, if_false, if_true]
    dsimp only [execData']
    simp only [pop_append c st v hs, fmtVal_rel _ _ _ w v hv, show (Opc.PRINT == Opc.PRINTLN) = false from rfl,
      beq_self_eq_true, Bool.false_eq_true, if_false, if_true, List.append_nil]
    rw [core_release_inert _ _ hv.inert]
    rfl

theorem ed_assert (v : Val) (hv : Val.inert v) (ht : truthy v = true) (hs : c.stack = st ++ [v]) :
    execData' m fr c is .ASSERT [] = ({ c with stack := st }, .running) := by
  dsimp only [execData']
  simp only [pop_append c st _ hs, ht, if_true]
  rw [core_release_inert _ _ hv]
  rfl

theorem ed_pop (v : Val) (hv : Val.inert v) (hs : c.stack = st ++ [v]) :
    execData' m fr c is .POP [] = ({ c with stack := st }, .running) := by
  dsimp only [execData']
  rw [pop_append c st _ hs]
  dsimp only
  rw [core_release_inert _ _ hv]
  rfl

end handlers

-- the layout `if`/`else` and `while` share
theorem Placed.branch {m : Module} {f ip : Nat} {cc cb rest : List PI} {a1 a2 : List Nat}
    (h : Placed m f ip (cc ++ [ins .JMP_FALSE a1] ++ cb ++ [ins .JMP a2] ++ rest)) :
    ip + codeSize cc + 5 + codeSize cb + 5 + codeSize rest < 2147483648 ∧ Placed m f ip (cc ++ [ins .JMP_FALSE a1]) ∧
      Placed m f (ip + codeSize cc + 5) cb ∧ Placed m f (ip + codeSize cc + 5 + codeSize cb) [ins .JMP a2] ∧
      Placed m f (ip + codeSize cc + 5 + codeSize cb + 5) rest := by
  have hbound := h.bound
  obtain ⟨h123, hr⟩ := h.append
  obtain ⟨h12, hj⟩ := h123.append
  obtain ⟨hcj, hb⟩ := h12.append
  simp only [codeSize_append, codeSize_jmp_false, codeSize_jmp, ← Nat.add_assoc] at hbound hr hj hb
  exact ⟨hbound, hcj, hb, hj, hr⟩

theorem codeSize_branch (cc cb rest : List PI) (a1 a2 : List Nat) :
    codeSize (cc ++ [ins .JMP_FALSE a1] ++ cb ++ [ins .JMP a2] ++ rest) = codeSize cc + 5 + codeSize cb + 5 + codeSize rest := by
  simp only [codeSize_append, codeSize_jmp_false, codeSize_jmp]

-- the shape of most cases of `cStmt`
theorem cExpr_then_inv {r : CR} {t : List PI} {cs' : CS} {code : List PI}
    (h : (match r with | .error er => .error er | .ok (cs1, c) => .ok (cs1, c ++ t) : CR) = .ok (cs', code)) :
    ∃ c, r = .ok (cs', c) ∧ code = c ++ t := by
  split at h
  · cases h
  · cases h
    exact ⟨_, rfl, rfl⟩

theorem cStmts_nil {ce : CE} {cs : CS} {d : Nat} : cStmts ce cs d [] = .ok (cs, []) := by
  rw [cStmts]

theorem cStmts_cons_inv {ce : CE} {cs cs' : CS} {d : Nat} {s : Stmt} {r : List Stmt} {code : List PI}
    (h : cStmts ce cs d (s :: r) = .ok (cs', code)) :
    ∃ cs1 c1 c2, cStmt ce cs d s = .ok (cs1, c1) ∧ cStmts ce cs1 d r = .ok (cs', c2) ∧ code = c1 ++ c2 := by
  rw [cStmts] at h
  split at h
  · cases h
  · rename_i cs1 c1 h1
    split at h
    · cases h
    · rename_i cs2 c2 h2
      cases h
      exact ⟨cs1, c1, c2, h1, h2, rfl⟩

theorem cStmt_let_inv {ce : CE} {cs cs' : CS} {d : Nat} {x : String} {mu : Bool} {ty : Ty} {e : Expr} {code : List PI}
    (h : cStmt ce cs d (.letS x mu ty e) = .ok (cs', code)) :
    ∃ cs1 c k, cExpr ce cs e = .ok (cs1, c) ∧ cs1.localAdd x (some ty) = .ok (cs', k) ∧ code = c ++ [loadIdx .STORE_LOCAL k] := by
  rw [cStmt] at h
  split at h
  · cases h
  · rename_i cs1 c he
    split at h
    · cases h
    · rename_i cs2 k ha
      cases h
      exact ⟨cs1, c, k, he, ha, rfl⟩

section inversion
variable {ce : CE} {cs cs' : CS} {d : Nat} {e : Expr} {code : List PI}

theorem cStmt_set_inv {x : String} (h : cStmt ce cs d (.setS x e) = .ok (cs', code)) :
    ∃ c, cExpr ce cs e = .ok (cs', c) ∧
      ((∃ k, cs.localFind x = some k ∧ code = c ++ [loadIdx .STORE_LOCAL k]) ∨
       (cs.localFind x = none ∧ ∃ gi, code = c ++ [loadIdx .STORE_GLOBAL gi])) := by
  rw [cStmt] at h
  split at h
  · rename_i k hk
    obtain ⟨c, he, rfl⟩ := cExpr_then_inv h
    exact ⟨c, he, .inl ⟨k, hk, rfl⟩⟩
  · rename_i hk
    split at h
    · obtain ⟨c, he, rfl⟩ := cExpr_then_inv h
      exact ⟨c, he, .inr ⟨hk, _, rfl⟩⟩
    · cases h

theorem cStmt_print_inv {ln : Bool} (h : cStmt ce cs d (.printS ln e) = .ok (cs', code)) :
    ∃ c, cExpr ce cs e = .ok (cs', c) ∧ code = c ++ [ins (if ln then .PRINTLN else .PRINT)] := by
  rw [cStmt] at h
  exact cExpr_then_inv h

theorem cStmt_assert_inv (h : cStmt ce cs d (.assertS e) = .ok (cs', code)) :
    ∃ c, cExpr ce cs e = .ok (cs', c) ∧ code = c ++ [ins .ASSERT] := by
  rw [cStmt] at h
  exact cExpr_then_inv h

theorem cStmt_expr_inv (h : cStmt ce cs d (.exprS e) = .ok (cs', code)) :
    ∃ c, cExpr ce cs e = .ok (cs', c) ∧ code = c ++ [ins .POP] := by
  rw [cStmt] at h
  exact cExpr_then_inv h

theorem cStmt_ret_inv (h : cStmt ce cs d (.ret (some e)) = .ok (cs', code)) :
    ∃ c, cExpr ce cs e = .ok (cs', c) ∧ code = c ++ [ins .RET] := by
  rw [cStmt] at h
  exact cExpr_then_inv h

theorem cStmt_block_inv {ss : List Stmt} (h : cStmt ce cs d (.block ss) = .ok (cs', code)) :
    cBlock ce cs d ss = .ok (cs', code) := by
  rw [cStmt] at h; exact h

theorem cBlock_inv {ss : List Stmt} (h : cBlock ce cs d ss = .ok (cs', code)) :
    ∃ cs1, cStmts ce cs d ss = .ok (cs1, code) ∧ cs' = cs1.scopeEnd cs.locals.length := by
  rw [cBlock] at h
  split at h
  · cases h
  · rename_i cs1 c he
    cases h
    exact ⟨cs1, he, rfl⟩

theorem cStmts_append_inv {a b : List Stmt} (h : cStmts ce cs d (a ++ b) = .ok (cs', code)) :
    ∃ cs1 c1 c2, cStmts ce cs d a = .ok (cs1, c1) ∧ cStmts ce cs1 d b = .ok (cs', c2) ∧ code = c1 ++ c2 := by
  induction a generalizing cs code with
  | nil => exact ⟨cs, [], code, cStmts_nil, h, rfl⟩
  | cons st r ih =>
    obtain ⟨cs1, c1, c2, h1, h2, rfl⟩ := cStmts_cons_inv h
    obtain ⟨cs2, c3, c4, h3, h4, rfl⟩ := ih h2
    refine ⟨cs2, c1 ++ c3, c4, ?_, h4, (List.append_assoc ..).symm⟩
    rw [cStmts]; simp only [h1, h3]

theorem cStmt_if_inv {c : Expr} {t : List Stmt} {els : Option (List Stmt)} {b : Bool}
    (h : cStmt ce cs d (.ifS c t els b) = .ok (cs', code)) :
    ∃ cs1 cc cs2 ct, cExpr ce cs c = .ok (cs1, cc) ∧ cBlock ce cs1 d t = .ok (cs2, ct) ∧
      match els with
      | none => cs' = cs2 ∧ code = cc ++ [ins .JMP_FALSE [pat32 (5 + codeSize ct)]] ++ ct
      | some eb => ∃ cel, cBlock ce cs2 d eb = .ok (cs', cel) ∧
          code = cc ++ [ins .JMP_FALSE [pat32 (5 + codeSize ct + 5)]] ++ ct ++ [ins .JMP [pat32 (5 + codeSize cel)]] ++ cel := by
  rw [cStmt] at h
  split at h
  · cases h
  · rename_i cs1 cc hc
    split at h
    · cases h
    · rename_i cs2 ct ht
      split at h
      · cases h
        exact ⟨_, cc, _, ct, hc, ht, rfl, rfl⟩
      · split at h
        · cases h
        · rename_i cs3 cel hel
          cases h
          exact ⟨_, cc, _, ct, hc, ht, cel, hel, rfl⟩

theorem cStmt_while_inv {c : Expr} {b : List Stmt}
    (h : cStmt ce cs d (.whileS c b) = .ok (cs', code)) :
    ∃ cs1 cc cb, cExpr ce cs c = .ok (cs1, cc) ∧ cBlock ce cs1 (d + 1) b = .ok (cs', cb) ∧
      code = cc ++ [ins .JMP_FALSE [pat32 (5 + codeSize cb + 5)]] ++ resolve (codeSize cc + 5 + codeSize cb + 5) 0 (codeSize cc + 5) cb
               ++ [ins .JMP [pat32 (-((codeSize cc + 5 + codeSize cb : Nat) : Int))]] := by
  rw [cStmt] at h
  split at h
  · cases h
  · split at h
    · cases h
    · rename_i cs1 cc hc
      split at h
      · cases h
      · rename_i cs2 cb hb
        split at h
        · cases h
        · cases h
          exact ⟨_, cc, cb, hc, hb, rfl⟩

end inversion

-- forwards only for the statement forms the Example modules are built from; the proofs use the `_inv` lemmas
section forward
variable {ce : CE} {cs cs1 cs2 : CS} {d : Nat} {e : Expr} {c : List PI}

theorem cStmt_let {x : String} {mu : Bool} {ty : Ty} {k : Nat} (he : cExpr ce cs e = .ok (cs1, c))
    (ha : cs1.localAdd x (some ty) = .ok (cs2, k)) :
    cStmt ce cs d (.letS x mu ty e) = .ok (cs2, c ++ [loadIdx .STORE_LOCAL k]) := by
  rw [cStmt]; simp only [he, ha]

theorem cStmt_set {x : String} {k : Nat} (hk : cs.localFind x = some k) (he : cExpr ce cs e = .ok (cs1, c)) :
    cStmt ce cs d (.setS x e) = .ok (cs1, c ++ [loadIdx .STORE_LOCAL k]) := by
  rw [cStmt]; simp only [hk, he]

theorem cStmt_print {ln : Bool} (he : cExpr ce cs e = .ok (cs1, c)) :
    cStmt ce cs d (.printS ln e) = .ok (cs1, c ++ [ins (if ln then .PRINTLN else .PRINT)]) := by
  rw [cStmt]; simp only [he]

theorem cStmt_ret (he : cExpr ce cs e = .ok (cs1, c)) : cStmt ce cs d (.ret (some e)) = .ok (cs1, c ++ [ins .RET]) := by
  rw [cStmt]; simp only [he]

theorem cStmts_cons {s : Stmt} {r : List Stmt} {c1 c2 : List PI}
    (h1 : cStmt ce cs d s = .ok (cs1, c1)) (h2 : cStmts ce cs1 d r = .ok (cs2, c2)) :
    cStmts ce cs d (s :: r) = .ok (cs2, c1 ++ c2) := by
  rw [cStmts]; simp only [h1, h2]

theorem cStmts_append {a b : List Stmt} {c1 c2 : List PI}
    (h1 : cStmts ce cs d a = .ok (cs1, c1)) (h2 : cStmts ce cs1 d b = .ok (cs2, c2)) :
    cStmts ce cs d (a ++ b) = .ok (cs2, c1 ++ c2) := by
  induction a generalizing cs c1 with
  | nil => cases cStmts_nil.symm.trans h1; exact h2
  | cons st r ih =>
    obtain ⟨cs3, c3, c4, h3, h4, rfl⟩ := cStmts_cons_inv h1
    rw [List.cons_append, List.append_assoc]
    exact cStmts_cons h3 (ih h4)

theorem cBlock_stmts {ss : List Stmt} (h : cStmts ce cs d ss = .ok (cs1, c)) :
    cBlock ce cs d ss = .ok (cs1.scopeEnd cs.locals.length, c) := by
  rw [cBlock]; simp only [h]

theorem cStmt_while {ex : Expr} {b : List Stmt} {cc cb : List PI}
    (hd : d < cgMaxLoopDepth) (hc : cExpr ce cs ex = .ok (cs1, cc)) (hb : cBlock ce cs1 (d + 1) b = .ok (cs2, cb))
    (hk : countBrk cb ≤ cgMaxBreaks) :
    cStmt ce cs d (.whileS ex b) = .ok (cs2, cc ++ [ins .JMP_FALSE [pat32 (5 + codeSize cb + 5)]] ++ resolve (codeSize cc + 5 + codeSize cb + 5) 0 (codeSize cc + 5) cb
               ++ [ins .JMP [pat32 (-((codeSize cc + 5 + codeSize cb : Nat) : Int))]]) := by
  rw [cStmt]
  rw [if_neg (by omega)]
  simp only [hc, hb]
  rw [if_neg (by omega)]

end forward

theorem scopeEnd_self (cs : CS) : cs.scopeEnd cs.locals.length = cs := by
  have h : ∀ p ∈ cs.locals.zipIdx,
      (match p with | (l, k) => if k ≥ cs.locals.length then { l with hidden := true } else l) = p.1 := by
    intro p hp
    have := (List.mem_zipIdx hp).2.1
    exact if_neg (by omega)
  unfold CS.scopeEnd
  rw [List.map_congr_left h, List.zipIdx_map_fst]

/-- statements without declarations, `break`, `continue`, `return`, `for`: assignment to a variable,
    printing, `assert`, expression statements, conditionals, `while` loops, nested blocks - over expressions
    of the pure fragment -/
inductive StmtF : Stmt → Prop
  | set (x : String) (e : Expr) : PureE e → StmtF (.setS x e)
  | print (ln : Bool) (e : Expr) : PureE e → StmtF (.printS ln e)
  | assert (e : Expr) : PureE e → StmtF (.assertS e)
  | expr (e : Expr) : PureE e → StmtF (.exprS e)
  | if1 (c : Expr) (t : List Stmt) (b : Bool) : PureE c → (∀ s ∈ t, StmtF s) → StmtF (.ifS c t none b)
  | if2 (c : Expr) (t eb : List Stmt) (b : Bool) : PureE c → (∀ s ∈ t, StmtF s) → (∀ s ∈ eb, StmtF s) → StmtF (.ifS c t (some eb) b)
  | while (c : Expr) (b : List Stmt) : PureE c → (∀ s ∈ b, StmtF s) → StmtF (.whileS c b)
  | block (ss : List Stmt) : (∀ s ∈ ss, StmtF s) → StmtF (.block ss)

theorem resolve_noPH (bt ct : Nat) (off : Nat) (c : List PI) (h : noPH c = true) : resolve bt ct off c = c := by
  induction c generalizing off with
  | nil => rfl
  | cons x r ih =>
    cases x with
    | i x => simp only [resolve]; rw [ih _ (by simpa [noPH] using h)]
    | brk => simp [noPH] at h
    | cont => simp [noPH] at h

theorem encodeAll_noPH (c : List PI) (bs : Bytes) (h : encodeAll c = some bs) : noPH c = true := by
  induction c generalizing bs with
  | nil => rfl
  | cons x r ih =>
    obtain ⟨i, bx, br, rfl, hx, hr, rfl⟩ := encodeAll_cons_inv h
    exact ih br hr

def CompF (ce : CE) (st : Stmt) : Prop :=
  ∀ (cs cs' : CS) (d : Nat) (code : List PI), cStmt ce cs d st = .ok (cs', code) → cs' = cs ∧ noPH code = true

theorem cStmts_compF (ce : CE) (ss : List Stmt) (ih : ∀ s ∈ ss, CompF ce s) :
    ∀ (cs cs' : CS) (d : Nat) (code : List PI), cStmts ce cs d ss = .ok (cs', code) → cs' = cs ∧ noPH code = true := by
  induction ss with
  | nil => intro cs cs' d code h; rw [cStmts_nil] at h; cases h; exact ⟨rfl, rfl⟩
  | cons s r ihr =>
    intro cs cs' d code h
    obtain ⟨cs1, c1, c2, h1, h2, rfl⟩ := cStmts_cons_inv h
    obtain ⟨rfl, n1⟩ := ih s (by simp) cs cs1 d c1 h1
    obtain ⟨rfl, n2⟩ := ihr (fun s hs => ih s (by simp [hs])) cs1 cs' d c2 h2
    exact ⟨rfl, by rw [noPH_append, n1, n2]; rfl⟩

theorem cBlock_compF (ce : CE) (ss : List Stmt) (ih : ∀ s ∈ ss, CompF ce s) :
    ∀ (cs cs' : CS) (d : Nat) (code : List PI), cBlock ce cs d ss = .ok (cs', code) → cs' = cs ∧ noPH code = true := by
  intro cs cs' d code h
  obtain ⟨cs1, h1, rfl⟩ := cBlock_inv h
  obtain ⟨rfl, n⟩ := cStmts_compF ce ss ih cs cs1 d code h1
  exact ⟨scopeEnd_self _, n⟩

-- takes the `∃` that the `cStmt_*_inv` lemmas return
theorem compF_expr1 {ce : CE} {e : Expr} (he : PureE e) {cs cs' : CS} {code : List PI} {i : Instr}
    (h : ∃ c, cExpr ce cs e = .ok (cs', c) ∧ code = c ++ [.i i]) : cs' = cs ∧ noPH code = true := by
  obtain ⟨c, hc, rfl⟩ := h
  obtain ⟨h1, h2⟩ := cExpr_pure ce e he cs cs' c hc
  exact ⟨h1, by rw [noPH_append, h2]; rfl⟩

theorem stmtF_compF (ce : CE) (st : Stmt) (hf : StmtF st) : CompF ce st := by
  induction hf with
  | set x e he =>
    intro cs cs' d code h
    obtain ⟨c, hc, ⟨k, _, rfl⟩ | ⟨_, gi, rfl⟩⟩ := cStmt_set_inv h <;> exact compF_expr1 he ⟨c, hc, rfl⟩
  | print ln e he => exact fun cs cs' d code h => compF_expr1 he (cStmt_print_inv h)
  | assert e he => exact fun cs cs' d code h => compF_expr1 he (cStmt_assert_inv h)
  | expr e he => exact fun cs cs' d code h => compF_expr1 he (cStmt_expr_inv h)
  | if1 c t b hc _ iht =>
    intro cs cs' d code h
    obtain ⟨cs1, cc, cs2, ct, h1, h2, rfl, rfl⟩ := cStmt_if_inv h
    obtain ⟨rfl, n1⟩ := cExpr_pure ce c hc cs _ cc h1
    obtain ⟨rfl, n2⟩ := cBlock_compF ce t iht _ _ d ct h2
    exact ⟨rfl, by rw [noPH_append, noPH_append, n1, n2]; rfl⟩
  | if2 c t eb b hc _ _ iht ihe =>
    intro cs cs' d code h
    obtain ⟨cs1, cc, cs2, ct, h1, h2, cel, h4, rfl⟩ := cStmt_if_inv h
    obtain ⟨rfl, n1⟩ := cExpr_pure ce c hc cs _ cc h1
    obtain ⟨rfl, n2⟩ := cBlock_compF ce t iht _ _ d ct h2
    obtain ⟨rfl, n3⟩ := cBlock_compF ce eb ihe _ _ d cel h4
    exact ⟨rfl, by rw [noPH_append, noPH_append, noPH_append, noPH_append, n1, n2, n3]; rfl⟩
  | «while» c b hc _ ihb =>
    intro cs cs' d code h
    obtain ⟨cs1, cc, cb, h1, h2, rfl⟩ := cStmt_while_inv h
    obtain ⟨rfl, n1⟩ := cExpr_pure ce c hc cs _ cc h1
    obtain ⟨rfl, n2⟩ := cBlock_compF ce b ihb _ _ (d + 1) cb h2
    exact ⟨rfl, by rw [noPH_append, noPH_append, noPH_append, resolve_noPH _ _ _ _ n2, n1, n2]; rfl⟩
  | block ss _ ih =>
    intro cs cs' d code h
    exact cBlock_compF ce ss ih cs cs' d code (cStmt_block_inv h)

theorem cBlock_stmtF (ce : CE) (ss : List Stmt) (hF : ∀ st ∈ ss, StmtF st) :
    ∀ (cs cs' : CS) (d : Nat) (code : List PI), cBlock ce cs d ss = .ok (cs', code) → cs' = cs ∧ noPH code = true :=
  cBlock_compF ce ss (fun st h => stmtF_compF ce st (hF st h))

theorem localFind_name (cs : CS) (x : String) (k : Nat) (h : cs.localFind x = some k) :
    ∃ l, cs.locals[k]? = some l ∧ l.name = x := by
  unfold CS.localFind at h
  have hp := List.find?_some h
  cases hl : cs.locals[k]? with
  | none => simp [hl] at hp
  | some l =>
    simp only [hl, Bool.and_eq_true, beq_iff_eq] at hp
    exact ⟨l, rfl, hp.2⟩

theorem update_inv {loc loc' : Sem.Locals} {x : String} {v : Sem.SVal} (h : Sem.update loc x v = some loc') :
    ∃ pre w post, loc = pre ++ (x, w) :: post ∧ loc' = pre ++ (x, v) :: post ∧ ∀ q ∈ pre, (q.1 == x) = false := by
  induction loc generalizing loc' with
  | nil => cases h
  | cons q r ih =>
    obtain ⟨y, w⟩ := q
    simp only [Sem.update] at h
    split at h
    · rename_i hyx
      cases h
      cases beq_iff_eq.mp hyx
      exact ⟨[], w, r, rfl, rfl, by simp⟩
    · rename_i hyx
      obtain ⟨l, hl, rfl⟩ := Option.map_eq_some_iff.mp h
      obtain ⟨pre, w', post, rfl, rfl, hp⟩ := ih hl
      refine ⟨(y, w) :: pre, w', post, rfl, rfl, fun q hq => ?_⟩
      rcases List.mem_cons.mp hq with rfl | hq
      · simpa using hyx
      · exact hp q hq

theorem lookup_mid (pre post : Sem.Locals) (x y : String) (w : Sem.SVal) (hp : ∀ q ∈ pre, (q.1 == x) = false) :
    Sem.lookup? (pre ++ (x, w) :: post) y = if x == y then some w else Sem.lookup? (pre ++ post) y := by
  simp only [Sem.lookup?, List.find?_append, List.find?_cons]
  by_cases hxy : x == y
  · cases beq_iff_eq.mp hxy
    rw [List.find?_eq_none.mpr (by simpa using hp)]
    simp
  · simp [hxy]

/-- the machine state at a statement boundary represents the reference state: the operand stack is empty
    (the stack ends with the frame's `L` slots), every slot holds a value without a heap address, the output so
    far is the reference's.  `closed` is kept by every statement and used by no lemma.  `noglob`: there is no
    handler lemma for STORE_GLOBAL and no `__init__` in `compileProgram_main`; `sim_set` uses it to exclude the
    assignment to a global. -/
structure StInv (ce : CE) (cs : CS) (loc : Sem.Locals) (g : Sem.GState) (fr : Frame) (L : Nat) (s : VmState) : Prop where
  env : EnvOK ce cs loc g fr.stackBase s.stack s.globals
  len : s.stack.length = fr.stackBase + L
  inert : ∀ j v, fr.stackBase ≤ j → s.stack[j]? = some v → Val.inert v
  out : s.out = g.out
  closed : ∀ x k, cs.localFind x = some k → (Sem.lookup? loc x).isSome
  noglob : g.globals = []

theorem localFind_snoc (cs : CS) (l : Local) (y : String) :
    ({ cs with locals := cs.locals ++ [l] } : CS).localFind y =
      if (!l.hidden && l.name == y) then some cs.locals.length else cs.localFind y := by
  unfold CS.localFind
  simp only [List.length_append, List.length_cons, List.length_nil, Nat.zero_add]
  rw [List.range_succ, List.reverse_append]
  simp only [List.reverse_cons, List.reverse_nil, List.nil_append, List.cons_append, List.find?_cons]
  have hn : (cs.locals ++ [l])[cs.locals.length]? = some l := by simp
  simp only [hn]
  by_cases hp : (!l.hidden && l.name == y) = true
  · simp [hp]
  · simp only [hp, Bool.false_eq_true, if_false]
    apply find?_congr
    intro j hj
    have hjl : j < cs.locals.length := by simpa using hj
    rw [List.getElem?_append_left hjl]

theorem localAdd_ok (cs cs2 : CS) (x : String) (ty : Option Ty) (k : Nat) (h : cs.localAdd x ty = .ok (cs2, k)) :
    k = cs.locals.length ∧ cs2 = { cs with locals := cs.locals ++ [{ name := x, ty := ty }] } ∧ cs.locals.length < cgMaxLocals := by
  unfold CS.localAdd at h
  split at h
  · cases h
  · cases h; exact ⟨rfl, rfl, by omega⟩

section
variable {ce : CE} {cs : CS} {loc : Sem.Locals} {g : Sem.GState} {fr : Frame} {L : Nat} {s : VmState}

theorem StInv.at_ip (h : StInv ce cs loc g fr L s) (ip : Nat) : StInv ce cs loc g fr L (advS s ip s.stack) :=
  ⟨h.env, h.len, h.inert, h.out, h.closed, h.noglob⟩

-- a represented value stored into slot `k`: what remains is how the variables of the new environments resolve
theorem StInv.store {cs' : CS} {loc' : Sem.Locals}
    (h : StInv ce cs loc g fr L s) (k : Nat) {w : Sem.SVal} {v : Val} (hv : VRel w v) (hlt : fr.stackBase + k < s.stack.length)
    (hloc : ∀ y wy, Sem.lookup? loc' y = some wy → ∃ ky vy, cs'.localFind y = some ky ∧
      (s.stack.set (fr.stackBase + k) v)[fr.stackBase + ky]? = some vy ∧ VRel wy vy ∧ ky < 65536 ∧ fr.stackBase + ky < 4294967296)
    (hcl : ∀ y ky, cs'.localFind y = some ky → (Sem.lookup? loc' y).isSome) (ip : Nat) :
    StInv ce cs' loc' g fr L (advS s ip (s.stack.set (fr.stackBase + k) v)) := by
  refine ⟨⟨hloc, ?_⟩, ?_, ?_, h.out, hcl, h.noglob⟩
  · intro y wy _ hy
    rw [h.noglob] at hy; simp [Sem.lookup?] at hy
  · show (s.stack.set (fr.stackBase + k) v).length = fr.stackBase + L
    rw [List.length_set]; exact h.len
  · intro j u hj hu
    have hu2 : (s.stack.set (fr.stackBase + k) v)[j]? = some u := hu
    by_cases hjk : j = fr.stackBase + k
    · subst hjk
      rw [List.getElem?_set_self hlt] at hu2
      cases hu2; exact hv.inert
    · rw [List.getElem?_set_ne (by omega)] at hu2
      exact h.inert j u hj hu2

/-- what `ed_store_local` needs about the slot of `x`, then the invariant after the store -/
theorem StInv.assign {loc1 : Sem.Locals} {x : String} {w : Sem.SVal} (h : StInv ce cs loc g fr L s) (hu : Sem.update loc x w = some loc1) :
    ∃ k old, cs.localFind x = some k ∧ s.stack[fr.stackBase + k]? = some old ∧ Val.inert old ∧ k < 65536 ∧
      fr.stackBase + k < 4294967296 ∧
      ∀ v ip, VRel w v → StInv ce cs loc1 g fr L (advS s ip (s.stack.set (fr.stackBase + k) v)) := by
  obtain ⟨pre, wold, post, rfl, rfl, hp⟩ := update_inv hu
  obtain ⟨k, vold, hk, hslot, hvold, hk16, hk32⟩ := h.env.locals x wold (by rw [lookup_mid _ _ _ _ _ hp]; simp)
  have hlt := (List.getElem?_eq_some_iff.mp hslot).1
  refine ⟨k, vold, hk, hslot, hvold.inert, hk16, hk32, fun v ip hv => h.store k hv hlt ?_ ?_ ip⟩
  · intro y wy hy
    rw [lookup_mid _ _ _ _ _ hp] at hy
    by_cases hxy : x == y
    · cases beq_iff_eq.mp hxy
      simp only [beq_self_eq_true, if_true, Option.some.injEq] at hy
      subst hy
      exact ⟨k, v, hk, by simp [hlt], hv, hk16, hk32⟩
    · simp only [hxy, Bool.false_eq_true, if_false] at hy
      obtain ⟨ky, vy, h1, h2, h3, h4, h5⟩ := h.env.locals y wy (by rw [lookup_mid _ _ _ _ _ hp]; simpa [hxy] using hy)
      -- two names that resolve to the same slot are the same name
      obtain ⟨lx, hlx, hlxn⟩ := localFind_name cs x k hk
      obtain ⟨ly, hly, hlyn⟩ := localFind_name cs y ky h1
      have hne : ky ≠ k := by
        intro e; subst e
        rw [hlx] at hly; cases hly
        rw [hlxn] at hlyn; subst hlyn; simp at hxy
      exact ⟨ky, vy, h1, by rw [List.getElem?_set_ne (by omega)]; exact h2, h3, h4, h5⟩
  · intro y ky hy
    have := h.closed y ky hy
    rw [lookup_mid _ _ _ _ _ hp] at this ⊢
    split <;> simp_all

theorem StInv.declare (h : StInv ce cs loc g fr L s) (x : String) (ty : Option Ty) (w : Sem.SVal) (hroom : cs.locals.length < L)
    (hmax : cs.locals.length < cgMaxLocals) (h32 : fr.stackBase + L < 4294967296) :
    cs.locals.length < 65536 ∧ ∃ old, s.stack[fr.stackBase + cs.locals.length]? = some old ∧ Val.inert old ∧
      ∀ v ip, VRel w v → StInv ce { cs with locals := cs.locals ++ [{ name := x, ty := ty }] } ((x, w) :: loc) g fr L
        (advS s ip (s.stack.set (fr.stackBase + cs.locals.length) v)) := by
  have hlt : fr.stackBase + cs.locals.length < s.stack.length := by rw [h.len]; omega
  have hold := List.getElem?_eq_getElem hlt
  have hk16 : cs.locals.length < 65536 := by
    have : cgMaxLocals ≤ 65536 := by decide
    omega
  refine ⟨hk16, _, hold, h.inert _ _ (by omega) hold, fun v ip hv => h.store _ hv hlt ?_ ?_ ip⟩
  · intro y wy hy
    rw [localFind_snoc]
    simp only [Sem.lookup?, List.find?_cons] at hy
    by_cases hxy : x == y
    · simp only [hxy, Option.map_some, Option.some.injEq] at hy
      subst hy
      simp only [Bool.not_false, Bool.true_and, hxy, if_true]
      exact ⟨_, v, rfl, by simp [hlt], hv, hk16, by omega⟩
    · simp only [hxy] at hy
      simp only [Bool.not_false, Bool.true_and, hxy, Bool.false_eq_true, if_false]
      obtain ⟨ky, vy, h1, h2, h3, h4, h5⟩ := h.env.locals y wy (by simpa [Sem.lookup?] using hy)
      obtain ⟨ly, hly, _⟩ := localFind_name cs y ky h1
      have hky : ky < cs.locals.length := (List.getElem?_eq_some_iff.mp hly).1
      exact ⟨ky, vy, h1, by rw [List.getElem?_set_ne (by omega)]; exact h2, h3, h4, h5⟩
  · intro y ky hy
    rw [localFind_snoc] at hy
    simp only [Sem.lookup?, List.find?_cons]
    by_cases hxy : x == y
    · simp [hxy]
    · simp only [Bool.not_false, Bool.true_and, hxy, Bool.false_eq_true, if_false] at hy
      simp only [hxy]
      simpa [Sem.lookup?] using h.closed y ky hy

end

/-- function entry: no variable declared yet, every slot of the frame `void` -/
theorem StInv.entry (ce : CE) (strs : List Bytes) (fr : Frame) (L : Nat) (s : VmState)
    (hst : s.stack = List.replicate (fr.stackBase + L) .void) (hout : s.out = []) :
    StInv ce { strings := strs } [] {} fr L s := by
  refine ⟨⟨?_, ?_⟩, by simp [hst], ?_, hout, ?_, rfl⟩
  · intro x w h; simp [Sem.lookup?] at h
  · intro x w _ h; simp [Sem.lookup?] at h
  · intro j v _ h
    cases List.eq_of_mem_replicate (hst ▸ List.mem_of_getElem? h); rfl
  · intro x k h; simp [CS.localFind] at h

/-- from every state that represents `(cs, loc, g)` with `c` placed at its instruction pointer, the VM runs to the
    end of `c`, changing only the core, and reaches a state that represents `(cs', loc', g')` -/
def Tr (m : Module) (ce : CE) (fr : Frame) (L : Nat) (cs : CS) (loc : Sem.Locals) (g : Sem.GState) (c : List PI)
    (cs' : CS) (loc' : Sem.Locals) (g' : Sem.GState) : Prop :=
  ∀ (s : VmState) (frs : List Frame), s.frames = fr :: frs → Placed m s.curFn s.ip c → StInv ce cs loc g fr L s →
    ∃ c' : Core, c'.ip = s.ip + codeSize c ∧ Runs m s { s with toCore := c' } ∧ StInv ce cs' loc' g' fr L { s with toCore := c' }

theorem Tr.nil (m : Module) (ce : CE) (fr : Frame) (L : Nat) (cs : CS) (loc : Sem.Locals) (g : Sem.GState) :
    Tr m ce fr L cs loc g [] cs loc g :=
  fun s _ _ _ hinv => ⟨s.toCore, rfl, Runs.refl m s, hinv⟩

theorem Tr.append {m : Module} {ce : CE} {fr : Frame} {L : Nat} {cs cs1 cs2 : CS} {loc loc1 loc2 : Sem.Locals}
    {g g1 g2 : Sem.GState} {c1 c2 : List PI} (h1 : Tr m ce fr L cs loc g c1 cs1 loc1 g1) (h2 : Tr m ce fr L cs1 loc1 g1 c2 cs2 loc2 g2) :
    Tr m ce fr L cs loc g (c1 ++ c2) cs2 loc2 g2 := by
  intro s frs hfr hp hinv
  obtain ⟨hp1, hp2⟩ := hp.append
  obtain ⟨k1, hip1, hrun1, hinv1⟩ := h1 s frs hfr hp1 hinv
  obtain ⟨k2, hip2, hrun2, hinv2⟩ := h2 { s with toCore := k1 } frs hfr (hip1 ▸ hp2) hinv1
  exact ⟨k2, by rw [hip2, hip1, codeSize_append, Nat.add_assoc], hrun1.trans hrun2, hinv2⟩

theorem Tr.run {m : Module} {ce : CE} {fr : Frame} {L : Nat} {cs cs' : CS} {loc loc' : Sem.Locals} {g g' : Sem.GState}
    {code : List PI} (tr : Tr m ce fr L cs loc g code cs' loc' g') {bs : Bytes} {s : VmState} {frs : List Frame}
    (hb : encodeAll code = some bs) (hfr : s.frames = fr :: frs) (hat : CodeAt m s.curFn s.ip bs) (hinv : StInv ce cs loc g fr L s) :
    ∃ n s', (∀ k, runLoop m (n + k) s = runLoop m k s') ∧ s'.ip = s.ip + bs.length ∧
      s'.frames = s.frames ∧ s'.curFn = s.curFn ∧ s'.out = g'.out ∧ StInv ce cs' loc' g' fr L s' := by
  obtain ⟨c', hip, hrun, hinv'⟩ := tr s frs hfr ⟨bs, hb, hat⟩ hinv
  obtain ⟨n, hn⟩ := hrun.loop
  exact ⟨n, _, hn, hip.trans (encodeAll_length code bs hb ▸ rfl), rfl, rfl, hinv'.out, hinv'⟩

/-- what is proved for statement, statement list and block alike (`comp` the generator, `exec` the reference).
    `cs` stands on both sides: statements of `StmtF` leave the compile-time state alone (`CompF`); a construct
    that declares, like `for` with its loop variable, fits neither -/
def SimC (m : Module) (ce : CE) (L : Nat) (comp : CS → Nat → CR)
    (exec : Nat → Sem.Locals → Sem.GState → Except (Sem.Fault × Sem.GState) (Sem.Flow × Sem.Locals × Sem.GState)) : Prop :=
  ∀ (cs cs' : CS) (code : List PI) (d fuel : Nat) (loc loc' : Sem.Locals) (g g' : Sem.GState) (fl : Sem.Flow) (fr : Frame),
    comp cs d = .ok (cs', code) → exec fuel loc g = .ok (fl, loc', g') →
    fl = .next ∧ loc'.length = loc.length ∧ Tr m ce fr L cs loc g code cs loc' g'

def SimS (m : Module) (ce : CE) (p : Program) (L : Nat) (st : Stmt) : Prop :=
  SimC m ce L (cStmt ce · · st) (Sem.execStmt Sem.vmCfg p · · · st)
def SimB (m : Module) (ce : CE) (p : Program) (L : Nat) (ss : List Stmt) : Prop :=
  SimC m ce L (cBlock ce · · ss) (Sem.execBlock Sem.vmCfg p · · · ss)

theorem codeSize_end (ip : Nat) (c d : List PI) : ip + codeSize c + codeSize d = ip + codeSize (c ++ d) := by
  rw [codeSize_append, Nat.add_assoc]

-- an expression and the instruction that consumes its value: `hx` is the handler on the representation `v`
theorem expr_then {m : Module} {s : VmState} {fr : Frame} {frs : List Frame} {ce : CE} {p : Program} {e : Expr} (he : PureE e)
    {cs cs1 : CS} {c : List PI} {f : Nat} {loc : Sem.Locals} {g g1 : Sem.GState} {w : Sem.SVal} {op : Opc} {args : List Nat}
    {k : Val → Core} (hce : cExpr ce cs e = .ok (cs1, c)) (hev : Sem.evalExpr Sem.vmCfg p f loc g e = .ok (w, g1))
    (hfr : s.frames = fr :: frs) (hp : Placed m s.curFn s.ip (c ++ [ins op args]))
    (henv : EnvOK ce cs loc g fr.stackBase s.stack s.globals) (hwf : Instr.wf ⟨op.toByte, args⟩) (hctl : Opc.isControl op = false)
    (hx : ∀ v, VRel w v → execData' m fr { s.toCore with ip := s.ip + codeSize c + codeSize [ins op args], stack := s.stack ++ [v] }
      (s.ip + codeSize c) op args = (k v, .running)) :
    g1 = g ∧ ∃ v, VRel w v ∧ Runs m s { s with toCore := k v } := by
  obtain ⟨hpc, hpo⟩ := hp.append
  obtain ⟨rfl, v, hv, hrun⟩ := cExpr_sim m ce p e he cs cs1 c f loc g g1 w s fr frs hce hev hfr hpc henv
  exact ⟨rfl, v, hv, hrun.trans (Runs.instr hfr hpo hwf hctl (hx v hv))⟩

section reference
variable {cfg : Sem.Cfg} {p : Program} {fuel : Nat} {loc loc' : Sem.Locals} {g g' : Sem.GState} {fl : Sem.Flow} {e : Expr}

theorem execStmt_fuel {st : Stmt} {r : Sem.Flow × Sem.Locals × Sem.GState} (h : Sem.execStmt cfg p fuel loc g st = .ok r) :
    ∃ f, fuel = f + 1 := by
  cases fuel with
  | zero => simp [Sem.execStmt] at h
  | succ f => exact ⟨f, rfl⟩

theorem execStmts_fuel {ss : List Stmt} {r : Sem.Flow × Sem.Locals × Sem.GState} (h : Sem.execStmts cfg p fuel loc g ss = .ok r) :
    ∃ f, fuel = f + 1 := by
  cases fuel with
  | zero => simp [Sem.execStmts] at h
  | succ f => exact ⟨f, rfl⟩

-- the shape of most cases of `execStmt`
theorem evalExpr_then_inv {α : Type} {r : Except (Sem.Fault × Sem.GState) (Sem.SVal × Sem.GState)}
    {k : Sem.SVal → Sem.GState → Except (Sem.Fault × Sem.GState) α} {res : α}
    (h : (match r with | .error er => .error er | .ok (w, g1) => k w g1 : Except (Sem.Fault × Sem.GState) α) = .ok res) :
    ∃ w g1, r = .ok (w, g1) ∧ k w g1 = .ok res := by
  split at h
  · cases h
  · exact ⟨_, _, rfl, h⟩

/-- a statement that evaluates `e` and ends with `k` of its value -/
theorem execStmt_eval_inv {st : Stmt} {k : Sem.SVal → Sem.GState → Sem.Flow × Sem.Locals × Sem.GState}
    (hst : ∀ f, Sem.execStmt cfg p (f + 1) loc g st =
      match Sem.evalExpr cfg p f loc g e with | .error er => .error er | .ok (w, g1) => .ok (k w g1))
    (h : Sem.execStmt cfg p fuel loc g st = .ok (fl, loc', g')) :
    ∃ f w g1, fuel = f + 1 ∧ Sem.evalExpr cfg p f loc g e = .ok (w, g1) ∧ k w g1 = (fl, loc', g') := by
  obtain ⟨f, rfl⟩ := execStmt_fuel h
  rw [hst] at h
  obtain ⟨w, g1, hev, hk⟩ := evalExpr_then_inv h
  exact ⟨f, w, g1, rfl, hev, Except.ok.inj hk⟩

theorem execStmt_print_inv {ln : Bool} (h : Sem.execStmt cfg p fuel loc g (.printS ln e) = .ok (fl, loc', g')) :
    ∃ f w g1, fuel = f + 1 ∧ Sem.evalExpr cfg p f loc g e = .ok (w, g1) ∧ fl = .next ∧ loc' = loc ∧
      g' = { g1 with out := g1.out ++ Sem.fmtSVal w ++ (if ln then [10] else []) } := by
  obtain ⟨f, w, g1, rfl, hev, hk⟩ := execStmt_eval_inv (fun _ => rfl) h
  cases hk
  exact ⟨f, w, g1, rfl, hev, rfl, rfl, rfl⟩

theorem execStmt_expr_inv (h : Sem.execStmt cfg p fuel loc g (.exprS e) = .ok (fl, loc', g')) :
    ∃ f w, fuel = f + 1 ∧ Sem.evalExpr cfg p f loc g e = .ok (w, g') ∧ fl = .next ∧ loc' = loc := by
  obtain ⟨f, w, g1, rfl, hev, hk⟩ := execStmt_eval_inv (fun _ => rfl) h
  cases hk
  exact ⟨f, w, rfl, hev, rfl, rfl⟩

theorem execStmt_let_inv {x : String} {mu : Bool} {ty : Ty} (h : Sem.execStmt cfg p fuel loc g (.letS x mu ty e) = .ok (fl, loc', g')) :
    ∃ f w, fuel = f + 1 ∧ Sem.evalExpr cfg p f loc g e = .ok (w, g') ∧ fl = .next ∧ loc' = (x, w) :: loc := by
  obtain ⟨f, w, g1, rfl, hev, hk⟩ := execStmt_eval_inv (fun _ => rfl) h
  cases hk
  exact ⟨f, w, rfl, hev, rfl, rfl⟩

theorem execStmt_ret_inv (h : Sem.execStmt cfg p fuel loc g (.ret (some e)) = .ok (fl, loc', g')) :
    ∃ f w, fuel = f + 1 ∧ Sem.evalExpr cfg p f loc g e = .ok (w, g') ∧ fl = .ret w ∧ loc' = loc := by
  obtain ⟨f, w, g1, rfl, hev, hk⟩ := execStmt_eval_inv (fun _ => rfl) h
  cases hk
  exact ⟨f, w, rfl, hev, rfl, rfl⟩

theorem execStmt_assert_inv (h : Sem.execStmt cfg p fuel loc g (.assertS e) = .ok (fl, loc', g')) :
    ∃ f, fuel = f + 1 ∧ Sem.evalExpr cfg p f loc g e = .ok (.bool true, g') ∧ fl = .next ∧ loc' = loc := by
  obtain ⟨f, rfl⟩ := execStmt_fuel h
  simp only [Sem.execStmt] at h
  split at h
  · cases h
  · cases h
    exact ⟨f, rfl, ‹_›, rfl, rfl⟩
  · cases h
  · cases h

theorem execStmt_set_inv {x : String} (h : Sem.execStmt cfg p fuel loc g (.setS x e) = .ok (fl, loc', g')) :
    ∃ f w g1, fuel = f + 1 ∧ Sem.evalExpr cfg p f loc g e = .ok (w, g1) ∧ fl = .next ∧
      ((Sem.update loc x w = some loc' ∧ g' = g1) ∨ (loc' = loc ∧ ∃ gl, Sem.update g1.globals x w = some gl)) := by
  obtain ⟨f, rfl⟩ := execStmt_fuel h
  simp only [Sem.execStmt] at h
  obtain ⟨w, g1, hev, hk⟩ := evalExpr_then_inv h
  refine ⟨f, w, g1, rfl, hev, ?_⟩
  split at hk
  · cases hk
    exact ⟨rfl, .inl ⟨‹_›, rfl⟩⟩
  · split at hk
    · cases hk
      exact ⟨rfl, .inr ⟨rfl, _, ‹_›⟩⟩
    · cases hk

theorem execStmt_if_inv {c : Expr} {t : List Stmt} {els : Option (List Stmt)} {bf : Bool} {res : Sem.Flow × Sem.Locals × Sem.GState}
    (h : Sem.execStmt cfg p fuel loc g (.ifS c t els bf) = .ok res) :
    ∃ f b g1, fuel = f + 1 ∧ Sem.evalExpr cfg p f loc g c = .ok (.bool b, g1) ∧
      (if b then Sem.execBlock cfg p f loc g1 t else
        match els with | none => .ok (.next, loc, g1) | some eb => Sem.execBlock cfg p f loc g1 eb) = .ok res := by
  obtain ⟨f, rfl⟩ := execStmt_fuel h
  simp only [Sem.execStmt] at h
  split at h
  · cases h
  · exact ⟨f, true, _, rfl, ‹_›, h⟩
  · exact ⟨f, false, _, rfl, ‹_›, by cases els <;> exact h⟩
  · cases h

theorem execStmts_nil_inv (h : Sem.execStmts cfg p fuel loc g [] = .ok (fl, loc', g')) : fl = .next ∧ loc' = loc ∧ g' = g := by
  obtain ⟨f, rfl⟩ := execStmts_fuel h
  cases h
  exact ⟨rfl, rfl, rfl⟩

theorem execStmts_cons_inv {st : Stmt} {r : List Stmt} {res : Sem.Flow × Sem.Locals × Sem.GState}
    (h : Sem.execStmts cfg p fuel loc g (st :: r) = .ok res) :
    ∃ f fl1 loc1 g1, fuel = f + 1 ∧ Sem.execStmt cfg p f loc g st = .ok (fl1, loc1, g1) ∧
      (fl1 = .next → Sem.execStmts cfg p f loc1 g1 r = .ok res) ∧ (fl1 ≠ .next → res = (fl1, loc1, g1)) := by
  obtain ⟨f, rfl⟩ := execStmts_fuel h
  simp only [Sem.execStmts] at h
  split at h
  · cases h
  · exact ⟨f, _, _, _, rfl, ‹_›, fun _ => h, fun e => absurd rfl e⟩
  · rename_i fl1 loc1 g1 hne hst
    exact ⟨f, fl1, loc1, g1, rfl, hst, fun e => absurd e hne, fun _ => (Except.ok.inj h).symm⟩

theorem execStmts_append_inv {a b : List Stmt} {res : Sem.Flow × Sem.Locals × Sem.GState}
    (h : Sem.execStmts cfg p fuel loc g (a ++ b) = .ok res) :
    ∃ fl1 loc1 g1, Sem.execStmts cfg p fuel loc g a = .ok (fl1, loc1, g1) ∧
      (fl1 = .next → Sem.execStmts cfg p (fuel - a.length) loc1 g1 b = .ok res) := by
  induction a generalizing fuel loc g with
  | nil =>
    obtain ⟨f, rfl⟩ := execStmts_fuel h
    exact ⟨.next, loc, g, by simp [Sem.execStmts], fun _ => h⟩
  | cons st r ih =>
    obtain ⟨f, fl1, loc1, g1, rfl, hst, hr, _⟩ := execStmts_cons_inv h
    simp only [Sem.execStmts, hst, List.length_cons, Nat.add_sub_add_right]
    cases fl1 with
    | next => exact ih (hr rfl)
    | _ => exact ⟨_, _, _, rfl, fun e => by cases e⟩

end reference

-- what every construct with a condition starts with
theorem cond_jump {m : Module} {s : VmState} {fr : Frame} {frs : List Frame} {ce : CE} {p : Program} {c : Expr} (hpc : PureE c)
    {cs cs1 : CS} {cc : List PI} {f : Nat} {loc : Sem.Locals} {g g1 : Sem.GState} {b : Bool} {d : Int} (t : Nat)
    (hce : cExpr ce cs c = .ok (cs1, cc)) (hev : Sem.evalExpr Sem.vmCfg p f loc g c = .ok (.bool b, g1))
    (hfr : s.frames = fr :: frs) (hp : Placed m s.curFn s.ip (cc ++ [ins .JMP_FALSE [pat32 d]]))
    (henv : EnvOK ce cs loc g fr.stackBase s.stack s.globals)
    (ht : ((s.ip + codeSize cc : Nat) : Int) + d = t) (hlt : t < 2147483648) (hd : -2147483648 ≤ d ∧ d < 2147483648) :
    g1 = g ∧ Runs m s (advS s (if b then s.ip + codeSize cc + 5 else t) s.stack) := by
  obtain ⟨rfl, v, hv, hrun⟩ := expr_then (k := fun _ => { s.toCore with ip := if b then s.ip + codeSize cc + 5 else t, stack := s.stack })
    hpc hce hev hfr hp henv (wf1 _ .i32 _ (by decide) (pat32_lt _)) rfl
    (fun v hv => by cases hv.of_bool; exact (ed_jmp_if m fr _ _ s.stack d t false b rfl ht hlt hd).trans (by cases b <;> rfl))
  exact ⟨rfl, hrun⟩

section sims
variable (m : Module) (ce : CE) (p : Program) (L : Nat)

theorem sim_set (x : String) (e : Expr) (he : PureE e) :
    SimS m ce p L (.setS x e) := by
  intro cs cs' code d fuel loc loc' g g' fl fr hc hs
  obtain ⟨c, hce, hcode⟩ := cStmt_set_inv hc
  obtain ⟨f, w, g1, rfl, hev, rfl, ⟨hu, rfl⟩ | ⟨hloc, gl, hug⟩⟩ := execStmt_set_inv hs
  · have hlen : loc'.length = loc.length := by
      obtain ⟨pre, w0, post, rfl, rfl, -⟩ := update_inv hu
      simp
    refine ⟨rfl, hlen, fun s frs hfr hp hinv => ?_⟩
    obtain ⟨k, old, hk, hslot, hin, hk16, hk32, hnext⟩ := hinv.assign hu
    obtain ⟨k', hk', rfl⟩ : ∃ k', cs.localFind x = some k' ∧ code = c ++ [loadIdx .STORE_LOCAL k'] := by
      rcases hcode with h | ⟨h, _⟩
      · exact h
      · rw [hk] at h; cases h
    cases hk.symm.trans hk'
    obtain ⟨rfl, v, hv, hrun⟩ := expr_then he hce hev hfr hp hinv.env (wf1 _ .u16 _ (by decide) (by show k < 256 ^ 2; omega)) rfl
      (fun v _ => ed_store_local m fr _ _ s.stack k v old hk32 rfl (List.getElem?_eq_some_iff.mp hslot).1 hslot hin)
    exact ⟨_, codeSize_end .., hrun, hnext v _ hv⟩
  · -- an assignment to a global: excluded, since a represented state has no globals
    refine ⟨rfl, by rw [hloc], fun s frs hfr hp hinv => ?_⟩
    have hpc : Placed m s.curFn s.ip c := by
      rcases hcode with ⟨k, _, rfl⟩ | ⟨_, gi, rfl⟩ <;> exact hp.append.1
    obtain ⟨hg1, _⟩ := cExpr_sim m ce p e he cs cs' c f loc g g1 w s fr frs hce hev hfr hpc hinv.env
    rw [hg1, hinv.noglob] at hug
    cases hug

theorem sim_print (ln : Bool) (e : Expr) (he : PureE e) :
    SimS m ce p L (.printS ln e) := by
  intro cs cs' code d fuel loc loc' g g' fl fr hc hs
  obtain ⟨c, hce, rfl⟩ := cStmt_print_inv hc
  obtain ⟨f, w, g1, rfl, hev, rfl, rfl, rfl⟩ := execStmt_print_inv hs
  refine ⟨rfl, rfl, fun s frs hfr hp hinv => ?_⟩
  obtain ⟨rfl, v, hv, hrun⟩ := expr_then he hce hev hfr hp hinv.env (by cases ln <;> exact wf0 _ (by decide))
    (by cases ln <;> rfl) (fun v hv => ed_print m fr _ _ s.stack w v ln hv rfl)
  exact ⟨_, codeSize_end .., hrun, ⟨hinv.env.locals, hinv.env.globals⟩, hinv.len, hinv.inert,
    by show s.out ++ _ = g1.out ++ _ ++ _; rw [hinv.out, List.append_assoc], hinv.closed, hinv.noglob⟩

theorem sim_assert (e : Expr) (he : PureE e) :
    SimS m ce p L (.assertS e) := by
  intro cs cs' code d fuel loc loc' g g' fl fr hc hs
  obtain ⟨c, hce, rfl⟩ := cStmt_assert_inv hc
  obtain ⟨f, rfl, hev, rfl, rfl⟩ := execStmt_assert_inv hs
  refine ⟨rfl, rfl, fun s frs hfr hp hinv => ?_⟩
  obtain ⟨rfl, v, hv, hrun⟩ := expr_then he hce hev hfr hp hinv.env (wf0 _ (by decide)) rfl
    (fun v hv => ed_assert m fr _ _ s.stack v hv.inert (by cases hv.of_bool; rfl) rfl)
  exact ⟨_, codeSize_end .., hrun, hinv.at_ip _⟩

theorem sim_exprS (e : Expr) (he : PureE e) :
    SimS m ce p L (.exprS e) := by
  intro cs cs' code d fuel loc loc' g g' fl fr hc hs
  obtain ⟨c, hce, rfl⟩ := cStmt_expr_inv hc
  obtain ⟨f, w, rfl, hev, rfl, rfl⟩ := execStmt_expr_inv hs
  refine ⟨rfl, rfl, fun s frs hfr hp hinv => ?_⟩
  obtain ⟨rfl, v, hv, hrun⟩ := expr_then he hce hev hfr hp hinv.env (wf0 _ (by decide)) rfl
    (fun v hv => ed_pop m fr _ _ s.stack v hv.inert rfl)
  exact ⟨_, codeSize_end .., hrun, hinv.at_ip _⟩

theorem sim_stmts (ss : List Stmt)
    (ih : ∀ st ∈ ss, SimS m ce p L st) (hF : ∀ st ∈ ss, StmtF st) :
    SimC m ce L (cStmts ce · · ss) (Sem.execStmts Sem.vmCfg p · · · ss) := by
  induction ss with
  | nil =>
    intro cs cs' code d fuel loc loc' g g' fl fr hc hs
    cases cStmts_nil.symm.trans hc
    obtain ⟨rfl, rfl, rfl⟩ := execStmts_nil_inv hs
    exact ⟨rfl, rfl, Tr.nil m ce fr L cs loc' g'⟩
  | cons st r ihr =>
    intro cs cs' code d fuel loc loc' g g' fl fr hc hs
    obtain ⟨cs1, c1, c2, h1, h2, rfl⟩ := cStmts_cons_inv hc
    obtain ⟨rfl, _⟩ := stmtF_compF ce st (hF st (by simp)) cs cs1 d c1 h1
    obtain ⟨f, fl1, loc1, g1, rfl, hst, hr, _⟩ := execStmts_cons_inv hs
    obtain ⟨rfl, hl1, t1⟩ := ih st (by simp) cs1 cs1 c1 d f loc loc1 g g1 fl1 fr h1 hst
    obtain ⟨rfl, hl2, t2⟩ := ihr (fun x hx => ih x (by simp [hx])) (fun x hx => hF x (by simp [hx]))
      cs1 cs' c2 d f loc1 loc' g1 g' fl fr h2 (hr rfl)
    exact ⟨rfl, hl2.trans hl1, t1.append t2⟩

theorem sim_block (ss : List Stmt)
    (ih : ∀ st ∈ ss, SimS m ce p L st) (hF : ∀ st ∈ ss, StmtF st) : SimB m ce p L ss := by
  intro cs cs' code d fuel loc loc' g g' fl fr hc hs
  obtain ⟨cs1, h1, _⟩ := cBlock_inv hc
  cases fuel with
  | zero => simp [Sem.execBlock] at hs
  | succ f =>
    simp only [Sem.execBlock] at hs
    split at hs
    · cases hs
    · rename_i fl1 loc1 g1 hst
      cases hs
      obtain ⟨rfl, hl, t⟩ := sim_stmts m ce p L ss ih hF cs cs1 code d f loc loc1 g _ _ fr h1 hst
      -- the block declared nothing, so nothing is dropped at its end
      rw [hl, Nat.sub_self, List.drop_zero]
      exact ⟨rfl, hl, t⟩

theorem sim_if1 (c : Expr) (t : List Stmt) (bf : Bool) (hpc : PureE c)
    (iht : SimB m ce p L t) (hF : ∀ st ∈ t, StmtF st) : SimS m ce p L (.ifS c t none bf) := by
  intro cs cs' code d fuel loc loc' g g' fl fr hc hs
  obtain ⟨cs1, cc, cs2, ct, h1, h2, rfl, hcode⟩ := cStmt_if_inv hc
  obtain rfl := cExpr_pure_cs ce c hpc cs _ cc h1
  obtain ⟨rfl, _⟩ := cBlock_stmtF ce t hF cs1 cs' d ct h2
  obtain ⟨f, b, g1, rfl, hev, hbr⟩ := execStmt_if_inv hs
  -- cc, JMP_FALSE behind the branch | ct
  have start : ∀ (s : VmState) (frs : List Frame), s.frames = fr :: frs → Placed m s.curFn s.ip code → StInv ce cs' loc g fr L s →
      g1 = g ∧ Placed m s.curFn (s.ip + codeSize cc + 5) ct ∧
        Runs m s (advS s (if b then s.ip + codeSize cc + 5 else s.ip + codeSize cc + 5 + codeSize ct) s.stack) := by
    intro s frs hfr hp hinv
    rw [hcode] at hp
    have hbound := hp.bound
    obtain ⟨hpcj, hpt⟩ := hp.append
    simp only [codeSize_append, codeSize_jmp_false, ← Nat.add_assoc] at hbound hpt
    obtain ⟨hg, hrun⟩ := cond_jump hpc (s.ip + codeSize cc + 5 + codeSize ct) h1 hev hfr hpcj hinv.env
      (by omega) (by omega) (by omega)
    exact ⟨hg, hpt, hrun⟩
  have size : codeSize code = codeSize cc + 5 + codeSize ct := by
    simp only [hcode, codeSize_append, codeSize_jmp_false]
  cases b
  · cases hbr
    refine ⟨rfl, rfl, fun s frs hfr hp hinv => ?_⟩
    obtain ⟨rfl, _, hrun⟩ := start s frs hfr hp hinv
    exact ⟨_, by rw [size]; simp only [Nat.add_assoc]; rfl, hrun, hinv.at_ip _⟩
  · obtain ⟨rfl, hl, tr⟩ := iht cs' cs' ct d f loc loc' g1 g' fl fr h2 hbr
    refine ⟨rfl, hl, fun s frs hfr hp hinv => ?_⟩
    obtain ⟨rfl, hpt, hrun⟩ := start s frs hfr hp hinv
    obtain ⟨k, hip, hrun2, hinv2⟩ := tr (advS s (s.ip + codeSize cc + 5) s.stack) frs hfr hpt (hinv.at_ip _)
    exact ⟨k, by rw [hip, size]; simp only [advS_ip, Nat.add_assoc], hrun.trans hrun2, hinv2⟩

theorem sim_if2 (c : Expr) (t eb : List Stmt) (bf : Bool) (hpc : PureE c)
    (iht : SimB m ce p L t) (ihe : SimB m ce p L eb) (hF : ∀ st ∈ t, StmtF st) :
    SimS m ce p L (.ifS c t (some eb) bf) := by
  intro cs cs' code d fuel loc loc' g g' fl fr hc hs
  obtain ⟨cs1, cc, cs2, ct, h1, h2, cel, h4, hcode⟩ := cStmt_if_inv hc
  obtain rfl := cExpr_pure_cs ce c hpc cs _ cc h1
  obtain ⟨rfl, _⟩ := cBlock_stmtF ce t hF cs1 cs2 d ct h2
  obtain ⟨f, b, g1, rfl, hev, hbr⟩ := execStmt_if_inv hs
  -- cc, JMP_FALSE to the else branch | ct | JMP over the else branch | cel
  have hvm : Tr m ce fr L cs2 loc g1 (if b then ct else cel) cs2 loc' g' → Tr m ce fr L cs2 loc g code cs2 loc' g' := by
    subst hcode
    intro tr s frs hfr hp hinv
    obtain ⟨hbound, hpcj, hpt, hpm, hpe⟩ := hp.branch
    rw [codeSize_branch]
    obtain ⟨rfl, hrun1⟩ := cond_jump hpc (s.ip + codeSize cc + 5 + codeSize ct + 5) h1 hev hfr hpcj hinv.env
      (by omega) (by omega) (by omega)
    cases b <;> simp only [Bool.false_eq_true, if_false, if_true] at hrun1 tr
    · -- false: the else branch runs to the end
      obtain ⟨k, hip, hrun2, hinv2⟩ := tr (advS s (s.ip + codeSize cc + 5 + codeSize ct + 5) s.stack) frs hfr hpe (hinv.at_ip _)
      exact ⟨k, by rw [hip]; simp only [advS_ip, Nat.add_assoc], hrun1.trans hrun2, hinv2⟩
    · -- true: the then branch, and the jump over the else branch
      obtain ⟨k, hip, hrun2, hinv2⟩ := tr (advS s (s.ip + codeSize cc + 5) s.stack) frs hfr hpt (hinv.at_ip _)
      refine ⟨{ k with ip := s.ip + codeSize cc + 5 + codeSize ct + 5 + codeSize cel }, by simp only [Nat.add_assoc],
        hrun1.trans (hrun2.trans ?_), hinv2.at_ip _⟩
      exact Runs.jmp (s := { s with toCore := k }) _ hfr (hip ▸ hpm) (by rw [hip]; simp only [advS_ip]; omega) (by omega) (by omega)
  cases b
  · obtain ⟨rfl, hl, tr⟩ := ihe cs2 cs' cel d f loc loc' g1 g' fl fr h4 hbr
    exact ⟨rfl, hl, hvm tr⟩
  · obtain ⟨rfl, hl, tr⟩ := iht cs2 cs2 ct d f loc loc' g1 g' fl fr h2 hbr
    exact ⟨rfl, hl, hvm tr⟩

theorem sim_while (c : Expr) (b : List Stmt) (hpc : PureE c)
    (ihb : SimB m ce p L b) (hF : ∀ st ∈ b, StmtF st) : SimS m ce p L (.whileS c b) := by
  intro cs cs' code d fuel loc loc' g g' fl fr hc hs
  obtain ⟨cs1, cc, cb, h1, h2, hcode⟩ := cStmt_while_inv hc
  obtain rfl := cExpr_pure_cs ce c hpc cs _ cc h1
  obtain ⟨rfl, nb⟩ := cBlock_stmtF ce b hF cs1 cs' (d + 1) cb h2
  rw [resolve_noPH _ _ _ _ nb] at hcode
  -- cc, JMP_FALSE behind the loop | cb | JMP back to cc
  -- `++ []`: the shape `Placed.branch` and `codeSize_branch` expect, with `rest := []`
  rw [← List.append_nil (_ ++ [ins .JMP _])] at hcode
  have pos := fun ip f (hp : Placed m f ip code) => Placed.branch (hcode ▸ hp)
  have size : codeSize code = codeSize cc + 5 + codeSize cb + 5 := by
    rw [hcode, codeSize_branch]; rfl
  -- the loop, by induction on the reference's fuel
  have loop : ∀ (k : Nat) (loc0 loc1 : Sem.Locals) (g0 g1 : Sem.GState) (fl0 : Sem.Flow),
      Sem.execWhile Sem.vmCfg p k loc0 g0 c b = .ok (fl0, loc1, g1) →
      fl0 = .next ∧ loc1.length = loc0.length ∧ Tr m ce fr L cs' loc0 g0 code cs' loc1 g1 := by
    intro k
    induction k with
    | zero => intro loc0 loc1 g0 g1 fl0 hw; simp [Sem.execWhile] at hw
    | succ k ihk =>
      intro loc0 loc1 g0 g1 fl0 hw
      simp only [Sem.execWhile] at hw
      split at hw
      · cases hw
      · -- the condition is false: jump behind the loop
        rename_i ga hev
        cases hw
        refine ⟨rfl, rfl, fun s frs hfr hp hinv => ?_⟩
        obtain ⟨hbound, hpcj, _, _, _⟩ := pos _ _ hp
        obtain ⟨rfl, hrun1⟩ := cond_jump hpc (s.ip + codeSize cc + 5 + codeSize cb + 5) h1 hev hfr hpcj hinv.env
          (by omega) (by omega) (by omega)
        exact ⟨_, by rw [size]; simp only [Nat.add_assoc]; rfl, hrun1, hinv.at_ip _⟩
      · -- true: the body, the jump back, and the loop again
        rename_i ga hev
        cases hbk : Sem.execBlock Sem.vmCfg p k loc0 ga b with
        | error er => simp [hbk] at hw
        | ok rb =>
          obtain ⟨flb, locb, gb⟩ := rb
          obtain ⟨rfl, hlb, trb⟩ := ihb cs' cs' cb (d + 1) k loc0 locb ga gb flb fr h2 hbk
          simp only [hbk] at hw
          obtain ⟨rfl, hl3, tr3⟩ := ihk locb loc1 gb g1 fl0 hw
          refine ⟨rfl, hl3.trans hlb, fun s frs hfr hp hinv => ?_⟩
          obtain ⟨hbound, hpcj, hpb, hpm, _⟩ := pos _ _ hp
          obtain ⟨rfl, hrun1⟩ := cond_jump hpc (s.ip + codeSize cc + 5 + codeSize cb + 5) h1 hev hfr hpcj hinv.env
            (by omega) (by omega) (by omega)
          obtain ⟨k2, hip2, hrun2, hinv2⟩ := trb (advS s (s.ip + codeSize cc + 5) s.stack) frs hfr hpb (hinv.at_ip _)
          have hback : Runs m { s with toCore := k2 } { s with toCore := { k2 with ip := s.ip } } :=
            Runs.jmp (s := { s with toCore := k2 }) _ hfr (hip2 ▸ hpm) (by rw [hip2]; simp only [advS_ip]; omega) (by omega) (by omega)
          obtain ⟨k3, hip3, hrun3, hinv3⟩ := tr3 { s with toCore := { k2 with ip := s.ip } } frs hfr hp (hinv2.at_ip _)
          exact ⟨k3, hip3, hrun1.trans (hrun2.trans (hback.trans hrun3)), hinv3⟩
      · cases hw
  obtain ⟨f, rfl⟩ := execStmt_fuel hs
  exact loop f loc loc' g g' fl hs

theorem sim_blockS (ss : List Stmt) (ih : SimB m ce p L ss) :
    SimS m ce p L (.block ss) := by
  intro cs cs' code d fuel loc loc' g g' fl fr hc hs
  obtain ⟨f, rfl⟩ := execStmt_fuel hs
  simp only [Sem.execStmt] at hs
  exact ih cs cs' code d f loc loc' g g' fl fr (cStmt_block_inv hc) hs

end sims

theorem stmtF_sim (m : Module) (ce : CE) (p : Program) (L : Nat) (st : Stmt) (hf : StmtF st) : SimS m ce p L st := by
  induction hf with
  | set x e he => exact sim_set m ce p L x e he
  | print ln e he => exact sim_print m ce p L ln e he
  | assert e he => exact sim_assert m ce p L e he
  | expr e he => exact sim_exprS m ce p L e he
  | if1 c t b hc ht iht => exact sim_if1 m ce p L c t b hc (sim_block m ce p L t iht ht) ht
  | if2 c t eb b hc ht he iht ihe =>
    exact sim_if2 m ce p L c t eb b hc (sim_block m ce p L t iht ht) (sim_block m ce p L eb ihe he) ht
  | «while» c b hc hb ihb => exact sim_while m ce p L c b hc (sim_block m ce p L b ihb hb) hb
  | block ss hss ih => exact sim_blockS m ce p L ss (sim_block m ce p L ss ih hss)

theorem sim_let (m : Module) (ce : CE) (p : Program) (L : Nat) (x : String) (mu : Bool) (ty : Ty) (e : Expr) (he : PureE e)
    (cs cs' : CS) (code : List PI) (d fuel : Nat) (loc loc' : Sem.Locals) (g g' : Sem.GState) (fl : Sem.Flow) (fr : Frame)
    (hc : cStmt ce cs d (.letS x mu ty e) = .ok (cs', code))
    (hs : Sem.execStmt Sem.vmCfg p fuel loc g (.letS x mu ty e) = .ok (fl, loc', g'))
    (hroom : cs'.locals.length ≤ L) (hb32 : fr.stackBase + L < 4294967296) :
    fl = .next ∧ Tr m ce fr L cs loc g code cs' loc' g' := by
  obtain ⟨cs1, c, k, hce, hadd, rfl⟩ := cStmt_let_inv hc
  obtain rfl := cExpr_pure_cs ce e he cs cs1 c hce
  obtain ⟨rfl, rfl, hmax⟩ := localAdd_ok _ _ _ _ _ hadd
  have hroom : cs1.locals.length < L := by
    simp only [List.length_append, List.length_cons, List.length_nil] at hroom; omega
  obtain ⟨f, w, rfl, hev, rfl, rfl⟩ := execStmt_let_inv hs
  refine ⟨rfl, fun s frs hfr hp hinv => ?_⟩
  obtain ⟨hk16, old, hold, hin, hnext⟩ := hinv.declare x (some ty) w hroom hmax hb32
  obtain ⟨rfl, v, hv, hrun⟩ := expr_then he hce hev hfr hp hinv.env (wf1 _ .u16 _ (by decide) (by show _ < 256 ^ 2; omega)) rfl
    (fun v _ => ed_store_local m fr _ _ s.stack _ v old (by omega) rfl (List.getElem?_eq_some_iff.mp hold).1 hold hin)
  exact ⟨_, codeSize_end .., hrun, hnext v _ hv⟩

/-- a function body of the fragment: declarations `let x = e` and statements of `StmtF`, in any order -/
inductive BodyF : List Stmt → Prop
  | nil : BodyF []
  | letS (x : String) (mu : Bool) (ty : Ty) (e : Expr) (r : List Stmt) : PureE e → BodyF r → BodyF (.letS x mu ty e :: r)
  | stmt (st : Stmt) (r : List Stmt) : StmtF st → BodyF r → BodyF (st :: r)

-- locals only grow: `body_sim` needs room for the tail's; strings and the limit: for `cFunction_bodyR`
theorem body_cs (ce : CE) (ss : List Stmt) (hb : BodyF ss) :
    ∀ (cs cs' : CS) (d : Nat) (code : List PI), cStmts ce cs d ss = .ok (cs', code) →
      cs.locals.length ≤ cs'.locals.length ∧ cs'.strings = cs.strings ∧
        (cs.locals.length ≤ cgMaxLocals → cs'.locals.length ≤ cgMaxLocals) := by
  induction hb with
  | nil => intro cs cs' d code h; rw [cStmts_nil] at h; cases h; exact ⟨Nat.le_refl _, rfl, id⟩
  | letS x mu ty e r he _ ih =>
    intro cs cs' d code h
    obtain ⟨cs1, c1, c2, h1, h2, rfl⟩ := cStmts_cons_inv h
    obtain ⟨cs0, c, k, hce, hadd, rfl⟩ := cStmt_let_inv h1
    obtain rfl := cExpr_pure_cs ce e he cs cs0 c hce
    obtain ⟨_, rfl, hlt⟩ := localAdd_ok _ _ _ _ _ hadd
    obtain ⟨hm, hs, hl⟩ := ih _ cs' d c2 h2
    simp only [List.length_append, List.length_cons, List.length_nil] at hm hl
    exact ⟨by omega, hs, fun _ => hl (by omega)⟩
  | stmt st r hst _ ih =>
    intro cs cs' d code h
    obtain ⟨cs1, c1, c2, h1, h2, rfl⟩ := cStmts_cons_inv h
    obtain ⟨rfl, _⟩ := stmtF_compF ce st hst cs cs1 d c1 h1
    exact ih cs1 cs' d c2 h2

theorem body_sim (m : Module) (ce : CE) (p : Program) (L : Nat) (ss : List Stmt) (hb : BodyF ss) :
    ∀ (cs cs' : CS) (code : List PI) (d fuel : Nat) (loc loc' : Sem.Locals) (g g' : Sem.GState) (fl : Sem.Flow) (fr : Frame),
      cStmts ce cs d ss = .ok (cs', code) →
      Sem.execStmts Sem.vmCfg p fuel loc g ss = .ok (fl, loc', g') →
      cs'.locals.length ≤ L → fr.stackBase + L < 4294967296 →
      fl = .next ∧ Tr m ce fr L cs loc g code cs' loc' g' := by
  induction hb with
  | nil =>
    intro cs cs' code d fuel loc loc' g g' fl fr hc hs _ _
    cases cStmts_nil.symm.trans hc
    obtain ⟨rfl, rfl, rfl⟩ := execStmts_nil_inv hs
    exact ⟨rfl, Tr.nil m ce fr L cs loc' g'⟩
  | letS x mu ty e r he hr ih =>
    intro cs cs' code d fuel loc loc' g g' fl fr hc hs hL h32
    obtain ⟨cs1, c1, c2, h1, h2, rfl⟩ := cStmts_cons_inv hc
    obtain ⟨f, fl1, loc1, g1, rfl, hst, hr', _⟩ := execStmts_cons_inv hs
    have hmono := (body_cs ce r hr cs1 cs' d c2 h2).1
    obtain ⟨rfl, t1⟩ := sim_let m ce p L x mu ty e he cs cs1 c1 d f loc loc1 g g1 fl1 fr h1 hst (by omega) h32
    obtain ⟨rfl, t2⟩ := ih cs1 cs' c2 d f loc1 loc' g1 g' fl fr h2 (hr' rfl) hL h32
    exact ⟨rfl, t1.append t2⟩
  | stmt st r hst hr ih =>
    intro cs cs' code d fuel loc loc' g g' fl fr hc hs hL h32
    obtain ⟨cs1, c1, c2, h1, h2, rfl⟩ := cStmts_cons_inv hc
    obtain ⟨rfl, _⟩ := stmtF_compF ce st hst cs cs1 d c1 h1
    obtain ⟨f, fl1, loc1, g1, rfl, hse, hr', _⟩ := execStmts_cons_inv hs
    obtain ⟨rfl, _, t1⟩ := stmtF_sim m ce p L st hst cs1 cs1 c1 d f loc loc1 g g1 fl1 fr h1 hse
    obtain ⟨rfl, t2⟩ := ih cs1 cs' c2 d f loc1 loc' g1 g' fl fr h2 (hr' rfl) hL h32
    exact ⟨rfl, t1.append t2⟩

end NanoVerif
