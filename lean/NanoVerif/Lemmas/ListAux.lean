/- List facts that several properties share. -/
namespace NanoVerif

theorem find?_congr {α : Type} {l : List α} {p q : α → Bool} (h : ∀ a ∈ l, p a = q a) : l.find? p = l.find? q := by
  rw [← List.head?_filter, ← List.head?_filter, List.filter_congr h]

theorem eq_of_key_eq {α β} {f : α → β} {l : List α} (hd : (l.map f).Nodup) :
    ∀ ⦃x⦄, x ∈ l → ∀ ⦃y⦄, y ∈ l → f x = f y → x = y :=
  have h : l.Pairwise (fun x y => f x ≠ f y) := List.pairwise_map.mp hd
  List.Pairwise.forall_of_forall_of_flip (fun _ _ _ => rfl) (h.imp fun hne e => absurd e hne)
    (h.imp fun hne e => absurd e.symm hne)

theorem find?_key {α β} [DecidableEq β] {f : α → β} {l : List α} (hd : (l.map f).Nodup) {a : α}
    (ha : a ∈ l) : l.find? (fun x => f x == f a) = some a := by
  cases h : l.find? (fun x => f x == f a) with
  | none => simpa using List.find?_eq_none.mp h a ha
  | some x =>
    exact congrArg some (eq_of_key_eq hd (List.mem_of_find?_eq_some h) ha (by simpa using List.find?_some h))

/-- adjacent elements increase: a linear check, where deciding `Nodup` compares all pairs -/
def increasing : List Nat → Bool
  | a :: b :: l => a < b && increasing (b :: l)
  | _ => true

theorem increasing_pairwise : ∀ {l : List Nat}, increasing l = true → l.Pairwise (· < ·)
  | [], _ => .nil
  | [_], _ => List.pairwise_singleton ..
  | a :: b :: l, h => by
    simp only [increasing, Bool.and_eq_true, decide_eq_true_eq] at h
    have ih := increasing_pairwise h.2
    refine List.pairwise_cons.mpr ⟨fun x hx => ?_, ih⟩
    rcases List.mem_cons.mp hx with rfl | hx
    · exact h.1
    · exact Nat.lt_trans h.1 (List.rel_of_pairwise_cons ih hx)

/-- no number occurs twice; `Nat.beq` because the kernel evaluates it in one step (the `Decidable`
    instance of `Nodup` costs it four times as much) -/
def distinct : List Nat → Bool
  | [] => true
  | a :: l => l.all (fun b => !Nat.beq a b) && distinct l

theorem distinct_nodup : ∀ {l : List Nat}, distinct l = true → l.Nodup
  | [], _ => .nil
  | a :: l, h => by
    simp only [distinct, Bool.and_eq_true, List.all_eq_true, Bool.not_eq_true'] at h
    exact List.nodup_cons.mpr ⟨fun ha => by simpa using h.1 a ha, distinct_nodup h.2⟩

/-- the bytes of a name as one number: compared as strings, the kernel encodes both literals as UTF-8
    again at every comparison -/
def nameCode (s : String) : Nat := s.toByteArray.data.toList.foldl (fun n b => n * 256 + b.toNat) 0

theorem take_set_succ {α} (l : List α) (n : Nat) (v : α) (h : n < l.length) :
    (l.set n v).take (n + 1) = l.take n ++ [v] := by
  rw [List.take_add_one, List.take_set_of_le (Nat.le_refl n), List.getElem?_set_self h]
  rfl

/-- the slots `l` after entry `k` of the first `n` is removed by `memmove` of the tail one slot down
    (the last of the `n` keeps its stale value) -/
def memmove {α} (l : List α) (k n : Nat) : List α :=
  l.take k ++ (l.drop (k + 1)).take (n - 1 - k) ++ l.drop (n - 1)

theorem memmove_spec {α} (l : List α) {k n : Nat} (hk : k < n) (hn : n ≤ l.length) :
    (memmove l k n).length = l.length ∧ (memmove l k n).take (n - 1) = (l.take n).eraseIdx k := by
  have e : (l.take k ++ (l.drop (k + 1)).take (n - 1 - k)).length = n - 1 := by
    rw [List.length_append, List.length_take_of_le (by omega),
      List.length_take_of_le (by rw [List.length_drop]; omega)]
    omega
  refine ⟨?_, ?_⟩
  · rw [memmove, List.length_append, e, List.length_drop]; omega
  · rw [memmove, List.take_left' e, List.eraseIdx_eq_take_drop_succ, List.take_take, List.drop_take,
      Nat.min_eq_left (Nat.le_of_lt hk), show n - (k + 1) = n - 1 - k by omega]

theorem getD_set_ne {α : Type} {l : List α} {i j : Nat} (v d : α) (hne : i ≠ j) : (l.set i v).getD j d = l.getD j d := by
  simp [List.getElem?_set_ne hne]

section
variable {α : Type} [BEq α]

theorem count_set_getD {l : List α} {i : Nat} (hi : i < l.length) (v d w : α) :
    (l.set i v).count w + [l.getD i d].count w = l.count w + [v].count w := by
  have := List.boole_getElem_le_count (a := w) hi
  rw [List.count_set hi, List.count_singleton, List.count_singleton, ← List.getElem_eq_getD (h := hi) d]
  omega

theorem count_eraseIdx_getD {l : List α} {i : Nat} (hi : i < l.length) (d w : α) :
    (l.eraseIdx i).count w + [l.getD i d].count w = l.count w := by
  induction l generalizing i with
  | nil => simp at hi
  | cons a r ih =>
    cases i with
    | zero => simp only [List.eraseIdx_cons_zero, List.getD_cons_zero, List.count_cons, List.count_nil]; omega
    | succ j =>
      have := ih (i := j) (by simpa using hi)
      simp only [List.eraseIdx_cons_succ, List.getD_cons_succ, List.count_cons, List.count_nil] at this ⊢
      omega

theorem count_take_drop (l : List α) (n : Nat) (w : α) : (l.take n).count w + (l.drop n).count w = l.count w := by
  rw [← List.count_append, List.take_append_drop]

theorem count_swap (l : List α) (i j : Nat) (d : α) (hi : i < l.length) (hj : j < l.length) (hij : i ≠ j) (w : α) :
    ((l.set i (l.getD j d)).set j (l.getD i d)).count w = l.count w := by
  have e1 := count_set_getD hi (l.getD j d) d w
  have e2 := count_set_getD (l := l.set i (l.getD j d)) (by simpa using hj) (l.getD i d) d w
  rw [getD_set_ne _ _ hij] at e2
  omega

theorem count_rot3 (l : List α) (i j k : Nat) (d : α) (hi : i < l.length) (hj : j < l.length) (hk : k < l.length)
    (hij : i ≠ j) (hik : i ≠ k) (hjk : j ≠ k) (w : α) :
    (((l.set i (l.getD j d)).set j (l.getD k d)).set k (l.getD i d)).count w = l.count w := by
  have e1 := count_set_getD hi (l.getD j d) d w
  have e2 := count_set_getD (l := l.set i (l.getD j d)) (by simpa using hj) (l.getD k d) d w
  have e3 := count_set_getD (l := (l.set i (l.getD j d)).set j (l.getD k d)) (by simpa using hk) (l.getD i d) d w
  rw [getD_set_ne _ _ hij] at e2
  rw [getD_set_ne _ _ hjk, getD_set_ne _ _ hik] at e3
  omega

end

theorem getD_mem {α : Type} {l : List α} {i : Nat} (hi : i < l.length) (d : α) : l.getD i d ∈ l :=
  List.getElem_eq_getD d ▸ List.getElem_mem hi

theorem getD_mem_or_default {α : Type} (l : List α) (i : Nat) (d : α) : l.getD i d = d ∨ l.getD i d ∈ l := by
  rw [List.getD_eq_getElem?_getD, List.getD_getElem?]
  split <;> simp

end NanoVerif
