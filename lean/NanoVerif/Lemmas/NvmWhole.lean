import NanoVerif.Lemmas.NvmFile
namespace NanoVerif

/-- the sections `nvm_serialize` writes, as data -/
def secsOf (m : Module) : List Sec :=
  (if m.strings.length > 0 then [Sec.strings m.strings] else [])
  ++ (if m.code.length > 0 then [Sec.code m.code] else [])
  ++ (if m.functions.length > 0 then [Sec.functions m.functions] else [])
  ++ (if m.debug.length > 0 then [Sec.debug m.debug] else [])
  ++ (if m.imports.length > 0 then [Sec.imports m.imports] else [])

theorem secPairs_secsOf (m : Module) : secPairs (secsOf m) = sectionsOf m := by
  unfold secsOf sectionsOf secPairs
  simp only [List.map_append, apply_ite (List.map _), List.map_cons, List.map_nil]
  rfl

theorem length_optional_le {α : Type} (c : Prop) [Decidable c] (a : α) : (if c then [a] else []).length ≤ 1 := by
  split <;> simp

theorem secsOf_length_le (m : Module) : (secsOf m).length ≤ 5 := by
  unfold secsOf
  simp only [List.length_append]
  have h1 := length_optional_le (m.strings.length > 0) (Sec.strings m.strings)
  have h2 := length_optional_le (m.code.length > 0) (Sec.code m.code)
  have h3 := length_optional_le (m.functions.length > 0) (Sec.functions m.functions)
  have h4 := length_optional_le (m.debug.length > 0) (Sec.debug m.debug)
  have h5 := length_optional_le (m.imports.length > 0) (Sec.imports m.imports)
  omega

theorem serialize_eq (m : Module) : serialize m =
    headerOf m (sectionsOf m) (crc32 (bodyOf (sectionsOf m))).toNat
      ++ dirEntries (Gen.headerSize + Gen.sectionEntrySize * (secsOf m).length) (secPairs (secsOf m))
      ++ bodyBytes (secsOf m) := by
  show headerOf .. ++ bodyOf _ = _
  rw [bodyOf, ← secPairs_secsOf, secPairs_flat, List.append_assoc]
  simp [secPairs]

/-- what the loader rebuilds from the sections of `m` -/
def reload (m : Module) : Module :=
  (secsOf m).foldl Sec.apply { flags := m.flags, entryPoint := m.entryPoint }

/-- a module `nvm_serialize` can write and `nvm_deserialize` can read back: fields fit their widths, the file
    is below 4 GiB -/
structure Module.wf (m : Module) : Prop where
  flags : m.flags < 4294967296
  entry : m.entryPoint < 4294967296
  secs : ∀ s ∈ secsOf m, s.wf
  size : (serialize m).length < 4294967296

/-- an empty optional section changes nothing, so the `if` can be dropped -/
theorem foldl_optional_sec {α : Type} (l : List α) (s : Sec) (m0 : Module) (h : l = [] → s.apply m0 = m0) :
    (if l.length > 0 then [s] else []).foldl Sec.apply m0 = s.apply m0 := by
  split
  · rfl
  · exact (h (List.eq_nil_of_length_eq_zero (by omega))).symm

theorem reload_eq (m : Module) (hs : m.strings.foldl (fun a s => (addString a s).1) [] = m.strings)
    (hci : m.imports.map canonImport = m.imports) : reload m = m := by
  unfold reload secsOf
  simp only [List.foldl_append]
  -- each of the five optional sections
  repeat rw [foldl_optional_sec _ _ _ (by intro h; rw [h]; simp [Sec.apply])]
  simp [Sec.apply, hs, hci]

end NanoVerif
