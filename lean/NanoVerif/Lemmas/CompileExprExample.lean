/-
A concrete instance of the hypotheses of `C01.compile_expr_correct_native` (non-vacuity): the expression
`(and (< 1 x) (== (* x 3) 15))` with x = 5 in local slot 0, its generated code, its bytes placed in a
one-function module, and a machine state whose frame holds x.
-/
import NanoVerif.Lemmas.CompileExpr
namespace NanoVerif.CompileEx
open NanoVerif Gen

def exE : Expr := .prefixOp .T_AND [.prefixOp .T_LT [.num 1, .ident "x"], .prefixOp .T_EQ [.prefixOp .T_STAR [.ident "x", .num 3], .num 15]]
def exCs : CS := { locals := [{ name := "x" }] }
def exCode : List PI :=
  [ins .PUSH_I64 [1], loadIdx .LOAD_LOCAL 0, ins .LT] ++ [ins .JMP_FALSE [pat32 (5 + codeSize ([loadIdx .LOAD_LOCAL 0, ins .PUSH_I64 [3]] ++ [ins .MUL] ++ [ins .PUSH_I64 [15]] ++ [ins .EQ]) + 1 + 5)]] ++
    ([loadIdx .LOAD_LOCAL 0, ins .PUSH_I64 [3]] ++ [ins .MUL] ++ [ins .PUSH_I64 [15]] ++ [ins .EQ]) ++ [ins .CAST_BOOL, ins .JMP [pat32 (5 + 2)], ins .PUSH_BOOL [0]]

theorem exLocal : exCs.localFind "x" = some 0 := by decide

theorem exCompile : cExpr {} exCs exE = .ok (exCs, exCode) := by
  unfold exE exCode
  have h1 : cExpr {} exCs (.prefixOp .T_LT [.num 1, .ident "x"]) = .ok (exCs, [ins .PUSH_I64 [pat64 1]] ++ [loadIdx .LOAD_LOCAL 0] ++ [ins .LT]) :=
    cExpr_strict _ _ _ _ _ .LT _ _ _ _ (cExpr_num ..) (cExpr_ident_local _ _ _ 0 exLocal) rfl
  have h2 : cExpr {} exCs (.prefixOp .T_STAR [.ident "x", .num 3]) = .ok (exCs, [loadIdx .LOAD_LOCAL 0] ++ [ins .PUSH_I64 [pat64 3]] ++ [ins .MUL]) :=
    cExpr_strict _ _ _ _ _ .MUL _ _ _ _ (cExpr_ident_local _ _ _ 0 exLocal) (cExpr_num ..) rfl
  have h3 := cExpr_strict {} exCs exCs exCs .T_EQ .EQ _ _ _ _ h2 (cExpr_num _ _ 15) rfl
  rw [cExpr_and {} exCs exCs exCs _ _ _ _ h1 h3]
  rfl
def exBytes : Bytes := [1, 1, 0, 0, 0, 0, 0, 0, 0, 16, 0, 0, 42, 58, 34, 0, 0, 0, 16, 0, 0, 1, 3, 0, 0, 0, 0, 0, 0, 0, 34, 1, 15, 0, 0, 0,
 0, 0, 0, 0, 40, 138, 56, 7, 0, 0, 0, 3, 0]
theorem exEncode : encodeAll exCode = some exBytes := by decide
def exM : Module := { functions := [⟨0, 0, 0, 49, 1, 0⟩], code := exBytes }
def exS : VmState := { stack := [.int 5], frames := [⟨0, 0, 0, 1, none⟩] }
def exLoc : Sem.Locals := [("x", .int 5)]

theorem exSem : Sem.evalExpr Sem.nativeCfg [] 10 exLoc {} exE = .ok (.bool true, {}) := by
  with_unfolding_all rfl

theorem exAt : CodeAt exM exS.curFn exS.ip exBytes :=
  ⟨⟨⟨0, 0, 0, 49, 1, 0⟩, rfl, by decide, by decide, by decide, by decide⟩, [], by decide⟩

theorem exEnv : EnvOK {} exCs exLoc {} 0 exS.stack exS.globals := by
  refine ⟨?_, ?_⟩
  · intro x w h
    unfold exLoc Sem.lookup? at h
    simp only [List.find?_cons] at h
    split at h
    · rename_i hx
      simp only [Option.map_some, Option.some.injEq] at h
      subst h
      have : x = "x" := by simpa using (beq_iff_eq.mp hx).symm
      subst this
      exact ⟨0, .int 5, exLocal, rfl, VRel.int 5, by decide, by decide⟩
    · simp at h
  · intro x w _ h
    simp [Sem.lookup?] at h

end NanoVerif.CompileEx
