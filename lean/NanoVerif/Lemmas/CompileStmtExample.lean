/-
A concrete instance of the hypotheses of `C01.compile_body_correct` (non-vacuity): the function body
    let mut x: int = 5   while (< x 7) { set x (+ x 1) }   (println x)
its generated code (with the loop's forward and backward jump offsets), the bytes placed in a one-function
module, a machine state at function entry, and the reference run (output "7\n").
-/
import NanoVerif.Lemmas.CompileStmt
namespace NanoVerif.CompileEx2
open NanoVerif Gen

def body : List Stmt :=
  [.letS "x" true .int (.num 5),
   .whileS (.prefixOp .T_LT [.ident "x", .num 7]) [.setS "x" (.prefixOp .T_PLUS [.ident "x", .num 1])],
   .printS true (.ident "x")]
def cs1 : CS := { locals := [{ name := "x", ty := some .int }] }
def ccW : List PI := [loadIdx .LOAD_LOCAL 0] ++ [ins .PUSH_I64 [pat64 7]] ++ [ins .LT]
def cbW : List PI := (([loadIdx .LOAD_LOCAL 0] ++ [ins .PUSH_I64 [pat64 1]] ++ [ins .ADD]) ++ [loadIdx .STORE_LOCAL 0]) ++ []
def code : List PI :=
  ([ins .PUSH_I64 [pat64 5]] ++ [loadIdx .STORE_LOCAL 0]) ++
  ((ccW ++ [ins .JMP_FALSE [pat32 (5 + codeSize cbW + 5)]] ++ resolve (codeSize ccW + 5 + codeSize cbW + 5) 0 (codeSize ccW + 5) cbW
      ++ [ins .JMP [pat32 (-((codeSize ccW + 5 + codeSize cbW : Nat) : Int))]]) ++
   (([loadIdx .LOAD_LOCAL 0] ++ [ins .PRINTLN]) ++ []))

theorem local0 : cs1.localFind "x" = some 0 := by decide

-- for any functions and string pool: `CompileMainExample` reuses this body
theorem compiles_at (ce : CE) (strs : List Bytes) :
    cStmts ce { strings := strs } 0 body = .ok ({ cs1 with strings := strs }, code) := by
  have hk : ({ cs1 with strings := strs } : CS).localFind "x" = some 0 := local0
  have hx := cExpr_ident_local ce _ _ 0 hk
  have hcond := cExpr_strict _ _ _ _ .T_LT .LT _ _ _ _ hx (cExpr_num _ _ 7) rfl
  have hinc := cExpr_strict _ _ _ _ .T_PLUS .ADD _ _ _ _ hx (cExpr_num _ _ 1) rfl
  have hset := cStmt_set (d := 1) hk hinc
  have hblk := cBlock_stmts (cStmts_cons hset cStmts_nil)
  rw [scopeEnd_self] at hblk
  have hwhile := cStmt_while (d := 0) (by decide) hcond hblk (by decide)
  have hprint := cStmt_print (d := 0) (ln := true) hx
  have hlet : cStmt ce { strings := strs } 0 (.letS "x" true .int (.num 5)) = .ok ({ cs1 with strings := strs }, _) :=
    cStmt_let (cExpr_num ..) rfl
  exact cStmts_cons hlet (cStmts_cons hwhile (cStmts_cons hprint cStmts_nil))

theorem compiles : cStmts {} {} 0 body = .ok (cs1, code) := compiles_at {} []

theorem whileF : StmtF (.whileS (.prefixOp .T_LT [.ident "x", .num 7]) [.setS "x" (.prefixOp .T_PLUS [.ident "x", .num 1])]) :=
  .while _ _ (.strict .T_LT .LT _ _ rfl (.ident "x") (.num 7)) (fun st hst => by
    cases List.mem_singleton.mp hst
    exact .set _ _ (.strict .T_PLUS .ADD _ _ rfl (.ident "x") (.num 1)))

theorem bodyF : BodyF body :=
  .letS _ _ _ _ _ (.num 5) (.stmt _ _ whileF (.stmt _ _ (.print true _ (.ident "x")) .nil))

def bytes : Bytes := [1, 5, 0, 0, 0, 0, 0, 0, 0, 17, 0, 0, 16, 0, 0, 1, 7, 0, 0, 0, 0, 0, 0, 0, 42, 58, 26, 0, 0, 0, 16, 0, 0, 1, 1, 0,
 0, 0, 0, 0, 0, 0, 32, 17, 0, 0, 56, 222, 255, 255, 255, 16, 0, 0, 164]
theorem encodes : encodeAll code = some bytes := by decide
def m : Module := { functions := [⟨0, 0, 0, 55, 1, 0⟩], code := bytes }
def s0 : VmState := { stack := [.void], frames := [⟨0, 0, 0, 1, none⟩] }

theorem runs : Sem.execStmts Sem.vmCfg [] 20 [] {} body = .ok (.next, [("x", .int 7)], { out := [55, 10] }) := by
  with_unfolding_all rfl

theorem at0 : CodeAt m s0.curFn s0.ip bytes :=
  ⟨⟨⟨0, 0, 0, 55, 1, 0⟩, rfl, by decide, by decide, by decide, by decide⟩, [], by decide⟩

theorem inv0 : StInv {} {} [] {} ⟨0, 0, 0, 1, none⟩ 1 s0 := StInv.entry _ _ _ _ _ rfl rfl

end NanoVerif.CompileEx2
