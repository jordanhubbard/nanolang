/-
`Sem.binArith` and the configuration: dividing an integer by zero is the only operator application whose result
depends on the configuration, and the only one that fails with anything but a type error.
-/
import NanoVerif.Model.Sem

namespace NanoVerif.Sem
open NanoVerif Gen

theorem binArith_zero (c : Cfg) {op : TT} (hop : op = .T_SLASH ∨ op = .T_PERCENT) (x : Int) :
    binArith c op (.int x) (.int 0) = if c.divZeroIsZero then .ok (.int 0) else .error .divZero := by
  rcases hop with rfl | rfl <;> rfl

theorem binArith_cases (c : Cfg) (op : TT) (a b : SVal) :
    ((op = .T_SLASH ∨ op = .T_PERCENT) ∧ ∃ x, a = .int x ∧ b = .int 0) ∨
    ((∀ c', binArith c' op a b = binArith c op a b) ∧ ∀ f, binArith c op a b = .error f → f = .typeError) := by
  unfold binArith
  split
  -- all alternatives but `/` and `%` mention no configuration, and fail, if at all, with a type error
  all_goals try exact .inr ⟨fun _ => rfl, fun _ h => by cases h <;> rfl⟩
  all_goals
    rename_i x y
    by_cases hy : y = 0
    · exact .inl ⟨by simp, x, rfl, by rw [hy]⟩
    · simp [hy]

end NanoVerif.Sem
