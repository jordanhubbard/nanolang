import NanoVerif.Lemmas.NvmSer
namespace NanoVerif

/-- the bytes `bs` stand in `data` at offset `off` -/
def At (data : Bytes) (off : Nat) (bs : Bytes) : Prop := ∃ pre post, data = pre ++ bs ++ post ∧ pre.length = off

namespace At
variable {data a b bs : Bytes} {off : Nat}

theorem mid (x b y : Bytes) : At (x ++ b ++ y) x.length b := ⟨x, y, rfl, rfl⟩

theorem left (h : At data off (a ++ b)) : At data off a := by
  obtain ⟨x, y, rfl, rfl⟩ := h
  exact ⟨x, b ++ y, by simp, rfl⟩

theorem right (h : At data off (a ++ b)) {k : Nat} (hk : a.length = k) : At data (off + k) b := by
  obtain ⟨x, y, rfl, rfl⟩ := h
  exact ⟨x ++ a, y, by simp, by simp [hk]⟩

theorem le_length (h : At data off bs) : off + bs.length ≤ data.length := by
  obtain ⟨x, y, rfl, rfl⟩ := h
  simp

theorem take_drop (h : At data off bs) : (data.drop off).take bs.length = bs := by
  obtain ⟨x, y, rfl, rfl⟩ := h
  rw [List.append_assoc, List.drop_left, List.take_left]

theorem slice? (h : At data off bs) : slice? data off bs.length = some bs := by
  unfold NanoVerif.slice?
  rw [if_pos h.le_length, h.take_drop]

theorem leVal_take_drop {n v : Nat} (h : At data off (leBytes n v)) (hv : v < 256 ^ n) :
    leVal ((data.drop off).take n) = v := by
  have := h.take_drop
  rw [leBytes_length] at this
  rw [this, leVal_leBytes_of_lt n v hv]

theorem rdBytes (h : At data off bs) {n : Nat} (hn : bs.length = n) : rdBytes data off n = .ok bs := by
  unfold NanoVerif.rdBytes; rw [← hn, h.slice?]

theorem rd {n v : Nat} (h : At data off (leBytes n v)) (hv : v < 256 ^ n) : rd data off n = .ok v := by
  rw [rd_eq, h.rdBytes (leBytes_length n v)]; exact congrArg Except.ok (leVal_leBytes_of_lt n v hv)

end At

/-- for any parser loop `P fuel pos acc`: `stop` at the section end, `step` over one well-formed record -/
theorem records_roundtrip {α β : Type} {ser : α → Bytes} {add : β → α → β} {ok : α → Prop}
    {P : Nat → Nat → β → Except LoadErr β} {data : Bytes} {base secSize : Nat}
    (hpos : ∀ x, 0 < (ser x).length)
    (stop : ∀ fuel acc, P (fuel + 1) secSize acc = .ok acc)
    (step : ∀ fuel pos acc x, ok x → At data (base + pos) (ser x) → pos + (ser x).length ≤ secSize →
      P (fuel + 1) pos acc = P fuel (pos + (ser x).length) (add acc x))
    (xs : List α) (hok : ∀ x ∈ xs, ok x) (pos fuel : Nat) (acc : β)
    (hat : At data (base + pos) (xs.flatMap ser)) (hend : pos + (xs.flatMap ser).length = secSize)
    (hfuel : secSize - pos < fuel) : P fuel pos acc = .ok (xs.foldl add acc) := by
  induction xs generalizing pos fuel acc with
  | nil =>
    obtain ⟨fuel, rfl⟩ : ∃ k, fuel = k + 1 := ⟨fuel - 1, by omega⟩
    rw [show pos = secSize by simpa using hend]
    exact stop fuel acc
  | cons x xs ih =>
    obtain ⟨fuel, rfl⟩ : ∃ k, fuel = k + 1 := ⟨fuel - 1, by omega⟩
    rw [List.flatMap_cons] at hat
    rw [List.flatMap_cons, List.length_append] at hend
    have := hpos x
    rw [step fuel pos acc x (hok x (by simp)) hat.left (by omega)]
    exact ih (fun y hy => hok y (List.mem_cons_of_mem _ hy)) _ _ _ (Nat.add_assoc .. ▸ hat.right rfl)
      (by omega) (by omega)

theorem foldl_snoc_map {α γ : Type} (g : α → γ) (xs : List α) (acc : List γ) :
    xs.foldl (fun a x => a ++ [g x]) acc = acc ++ xs.map g := by
  induction xs generalizing acc with
  | nil => simp
  | cons x xs ih => simp [ih]

theorem foldl_snoc {α : Type} (xs acc : List α) : xs.foldl (fun a x => a ++ [x]) acc = acc ++ xs := by
  simpa using foldl_snoc_map id xs acc

theorem parseStrings_ser {data : Bytes} {base : Nat} (ss : List Bytes) (hw : ∀ s ∈ ss, s.length < 4294967296)
    (hs : (serStrings ss).length + 4 < 4294967296) (acc : List Bytes) (hat : At data base (serStrings ss)) :
    parseStrings data base (serStrings ss).length ((serStrings ss).length + 1) 0 acc
      = .ok (ss.foldl (fun a s => (addString a s).1) acc) := by
  unfold serStrings at hs hat ⊢
  exact records_roundtrip (P := parseStrings data base _) (base := base)
    (fun s => by simp; omega)
    (fun fuel acc => by
      simp only [parseStrings]
      rw [if_neg (by rw [u32_of_lt (by omega)]; omega)])
    (fun fuel pos acc s hlen hx hle => by
      simp only [List.length_append, leBytes_length] at hle ⊢
      simp only [parseStrings]
      rw [if_pos (by rw [u32_of_lt (by omega)]; omega), hx.left.rd hlen]
      simp only [bind, Except.bind]
      rw [if_neg (by omega), ← Nat.add_assoc base, (hx.right (leBytes_length ..)).rdBytes rfl, Nat.add_assoc pos])
    ss hw 0 _ acc hat (Nat.zero_add _) (Nat.lt_add_one_of_le (Nat.sub_le ..))

def FnEntry.wf (f : FnEntry) : Prop :=
  f.nameIdx < 256 ^ 4 ∧ f.arity < 256 ^ 2 ∧ f.codeOffset < 256 ^ 4 ∧ f.codeLength < 256 ^ 4 ∧
    f.localCount < 256 ^ 2 ∧ f.upvalueCount < 256 ^ 2

theorem parseFunctions_ser {data : Bytes} {base : Nat} (fs : List FnEntry) (hw : ∀ f ∈ fs, f.wf)
    (hs : (fs.flatMap serFn).length + 18 < 4294967296) (acc : List FnEntry) (hat : At data base (fs.flatMap serFn)) :
    parseFunctions data base (fs.flatMap serFn).length ((fs.flatMap serFn).length + 1) 0 acc = .ok (acc ++ fs) := by
  have := records_roundtrip (P := parseFunctions data base (fs.flatMap serFn).length) (base := base) (add := fun acc f => acc ++ [f])
    (fun f => by rw [serFn_length]; omega)
    (fun fuel acc => by
      simp only [parseFunctions]
      unfold Gen.functionEntrySize
      rw [if_neg (by rw [u32_of_lt (by omega)]; omega)])
    (fun fuel pos acc f ⟨w1, w2, w3, w4, w5, w6⟩ hat hle => by
      rw [serFn_length] at hle ⊢
      unfold serFn at hat
      simp only [parseFunctions]
      unfold Gen.functionEntrySize
      rw [if_pos (by rw [u32_of_lt (by omega)]; omega), hat.left.left.left.left.left.rd w1,
        (hat.left.left.left.left.right (by simp)).rd w2, (hat.left.left.left.right (by simp)).rd w3,
        (hat.left.left.right (by simp)).rd w4, (hat.left.right (by simp)).rd w5, (hat.right (by simp)).rd w6]
      rfl)
    fs hw 0 _ acc hat (Nat.zero_add _) (Nat.lt_add_one_of_le (Nat.sub_le ..))
  rw [this, foldl_snoc]

def DebugEntry.wf (d : DebugEntry) : Prop := d.bytecodeOffset < 256 ^ 4 ∧ d.sourceLine < 256 ^ 4

theorem parseDebug_ser {data : Bytes} {base : Nat} (ds : List DebugEntry) (hw : ∀ d ∈ ds, d.wf)
    (hs : (ds.flatMap serDebug).length + 8 < 4294967296) (acc : List DebugEntry) (hat : At data base (ds.flatMap serDebug)) :
    parseDebug data base (ds.flatMap serDebug).length ((ds.flatMap serDebug).length + 1) 0 acc = .ok (acc ++ ds) := by
  have := records_roundtrip (P := parseDebug data base (ds.flatMap serDebug).length) (base := base) (add := fun acc d => acc ++ [d])
    (fun d => by rw [serDebug_length]; omega)
    (fun fuel acc => by
      simp only [parseDebug]
      unfold Gen.debugEntrySize
      rw [if_neg (by rw [u32_of_lt (by omega)]; omega)])
    (fun fuel pos acc d hd hat hle => by
      rw [serDebug_length] at hle ⊢
      simp only [parseDebug]
      unfold Gen.debugEntrySize
      rw [if_pos (by rw [u32_of_lt (by omega)]; omega), hat.left.rd hd.1, (hat.right (leBytes_length ..)).rd hd.2]
      rfl)
    ds hw 0 _ acc hat (Nat.zero_add _) (Nat.lt_add_one_of_le (Nat.sub_le ..))
  rw [this, foldl_snoc]

def ImportEntry.wf (i : ImportEntry) : Prop :=
  i.moduleNameIdx < 256 ^ 4 ∧ i.functionNameIdx < 256 ^ 4 ∧ i.paramCount < 256 ^ 2 ∧ i.returnType < 256

/-- what an import entry looks like after a round trip: the parameter table is materialised
    (zeros when it was absent) and is absent exactly when `param_count = 0` -/
def canonImport (i : ImportEntry) : ImportEntry :=
  { i with paramTypes := if i.paramCount > 0 then some (importParams i) else none }

theorem parseImports_ser {data : Bytes} {base : Nat} (is : List ImportEntry) (hw : ∀ i ∈ is, i.wf)
    (hs : (is.flatMap serImport).length + 65600 < 4294967296) (acc : List ImportEntry)
    (hat : At data base (is.flatMap serImport)) :
    parseImports data base (is.flatMap serImport).length ((is.flatMap serImport).length + 1) 0 acc
      = .ok (acc ++ is.map canonImport) := by
  have := records_roundtrip (P := parseImports data base (is.flatMap serImport).length) (base := base) (add := fun acc i => acc ++ [canonImport i])
    (fun i => by rw [serImport_length]; omega)
    (fun fuel acc => by
      simp only [parseImports]
      unfold Gen.importEntryBaseSize
      rw [if_neg (by rw [u32_of_lt (by omega)]; omega)])
    (fun fuel pos acc i ⟨w1, w2, w3, w4⟩ hat hle => by
      rw [serImport_length] at hle ⊢
      unfold serImport at hat
      have e : [UInt8.ofNat i.returnType] = leBytes 1 i.returnType := by simp [leBytes, Nat.mod_eq_of_lt w4]
      rw [e] at hat
      simp only [parseImports]
      unfold Gen.importEntryBaseSize
      rw [if_pos (by rw [u32_of_lt (by omega)]; omega), hat.left.left.left.left.rd w1,
        (hat.left.left.left.right (by simp)).rd w2, (hat.left.left.right (by simp)).rd w3,
        (hat.left.right (by simp)).rd (by simpa using w4)]
      simp only [bind, Except.bind]
      rw [if_neg (by rw [u32_of_lt (by omega)]; omega), ← Nat.add_assoc base,
        (hat.right (by simp)).rdBytes (importParams_length i), ← Nat.add_assoc pos]
      rfl)
    is hw 0 _ acc hat (Nat.zero_add _) (Nat.lt_add_one_of_le (Nat.sub_le ..))
  rw [this, foldl_snoc_map]

end NanoVerif
