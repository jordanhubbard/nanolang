/-
C18 — the daemon survives malformed and abandoned client sessions.

Model: `serve` (Model/Vmd.lean), the reply of `client_thread` as a function of EVERY byte sequence a peer
may have sent before it stopped sending (so every message prefix and every disconnect point is an input),
and the accept loop's bookkeeping as a fold over any sequence of such sessions.

  * `shutdown_iff`: a session asks the daemon to stop iff its first eight bytes are a valid SHUTDOWN header;
    hence (`survives`) after ANY sequence of sessions none of which is such a request — garbage, wrong
    version, oversized or inconsistent length, truncated payload at any point, non-module or hostile
    payload, early disconnect — the daemon is still accepting (its count of active clients is unchanged
    whatever the sessions: `handle` copies it).
  * `bad_header_silent`, `wrong_version_silent`, `oversized_silent`: a session whose header is short, of
    another version, or longer than the limit gets no reply at all (and none is needed: the connection is
    just closed).
  * `exec_reply_shape`: the reply to every LOAD_EXEC session whose header is valid ends with a terminal frame —
    an ERROR (bad size / truncated payload / not a module / verifier refusal) or an EXIT_CODE — and before it
    come only OUTPUT frames and, for a run that ended with an error text, one ERROR frame.
  * `unaffected`: the reply to a session is a function of that session's bytes alone: after whatever other
    sessions that did not stop the daemon, a well-formed client gets the frames of its own program.

What the model cannot exhibit: a crash inside the VM or the loader while serving a hostile module, SIGPIPE
on a vanished peer, descriptor exhaustion.  Those are what the correspondence run provokes on the real
daemon: the catalogue of ill-behaved clients interleaved with well-formed ones, the daemon's pid checked
and PING answered after every step, each reply compared with `serve`.
-/
import NanoVerif.Model.Vmd

namespace NanoVerif.C18
open NanoVerif NanoVerif.Vmd Gen

def isShutdownReq (sent : Bytes) : Prop :=
  ∃ h rest, recvHeader sent = some (h, rest) ∧ h.msgType = vmdShutdown

/-- of the branches of `serve`, the SHUTDOWN one alone sets the flag -/
theorem shutdown_iff (exec : Bytes → Run) (active : Nat) (sent : Bytes) :
    (serve exec active sent).2 = true ↔ isShutdownReq sent := by
  unfold isShutdownReq
  fun_cases serve exec active sent <;> simp_all [vmdPing, vmdShutdown, vmdStatus, vmdLoadExec]

/-- the accept loop: sessions handled one after another (threads only interleave their I/O; the shared
    state is this record) -/
structure Daemon where
  accepting : Bool := true
  active : Nat := 0
deriving DecidableEq, Repr

def handle (exec : Bytes → Run) (d : Daemon) (sent : Bytes) : Daemon × List Frame :=
  if !d.accepting then (d, [])
  else
    let r := serve exec (d.active + 1) sent
    ({ accepting := !r.2, active := d.active }, r.1)       -- g_active_clients: +1 on entry, −1 at `done:`

def handleAll (exec : Bytes → Run) (d : Daemon) : List Bytes → Daemon
  | [] => d
  | s :: r => handleAll exec (handle exec d s).1 r

theorem handle_fst (exec : Bytes → Run) {d : Daemon} {s : Bytes} (hd : d.accepting = true)
    (hs : ¬ isShutdownReq s) : (handle exec d s).1 = d := by
  have : (serve exec (d.active + 1) s).2 = false :=
    Bool.eq_false_iff.mpr fun hb => hs ((shutdown_iff exec _ s).mp hb)
  cases d
  simp_all [handle]

theorem handleAll_eq (exec : Bytes → Run) (sessions : List Bytes) (d : Daemon) (hd : d.accepting = true)
    (h : ∀ s ∈ sessions, ¬ isShutdownReq s) : handleAll exec d sessions = d := by
  induction sessions with
  | nil => rfl
  | cons s r ih =>
    rw [handleAll, handle_fst exec hd (h s List.mem_cons_self)]
    exact ih fun x hx => h x (List.mem_cons_of_mem _ hx)

theorem survives (exec : Bytes → Run) (sessions : List Bytes) (d : Daemon) (hd : d.accepting = true)
    (h : ∀ s ∈ sessions, ¬ isShutdownReq s) :
    (handleAll exec d sessions).accepting = true ∧ (handleAll exec d sessions).active = d.active := by
  rw [handleAll_eq exec sessions d hd h]
  exact ⟨hd, rfl⟩

theorem recvHeader_eq_none (b : Bytes) : recvHeader b = none ↔
    b.length < vmdHeaderSize ∨ (b.getD 0 0).toNat ≠ vmdVersion ∨ leVal ((b.drop 4).take 4) > vmdMaxPayload := by
  simp only [recvHeader, ite_eq_left_iff, reduceCtorEq, imp_false, bne_iff_ne, Decidable.imp_iff_not_or,
    Decidable.not_not]

theorem serve_silent (exec : Bytes → Run) (active : Nat) {sent : Bytes} (h : recvHeader sent = none) :
    serve exec active sent = ([], false) := by
  simp [serve, h]

theorem bad_header_silent (exec : Bytes → Run) (active : Nat) (sent : Bytes) (h : sent.length < vmdHeaderSize) :
    serve exec active sent = ([], false) :=
  serve_silent exec active ((recvHeader_eq_none sent).mpr (.inl h))

theorem wrong_version_silent (exec : Bytes → Run) (active : Nat) (sent : Bytes) (h : (sent.getD 0 0).toNat ≠ vmdVersion) :
    serve exec active sent = ([], false) :=
  serve_silent exec active ((recvHeader_eq_none sent).mpr (.inr (.inl h)))

theorem oversized_silent (exec : Bytes → Run) (active : Nat) (sent : Bytes) (h : leVal ((sent.drop 4).take 4) > vmdMaxPayload) :
    serve exec active sent = ([], false) :=
  serve_silent exec active ((recvHeader_eq_none sent).mpr (.inr (.inr h)))

def isTerminal : Frame → Bool
  | .error _ => true
  | .exit _ => true
  | _ => false

def isOutput : Frame → Bool
  | .output _ => true
  | _ => false

theorem exec_reply_shape (exec : Bytes → Run) (active : Nat) (sent rest : Bytes) (h : Hdr)
    (hr : recvHeader sent = some (h, rest)) (ht : h.msgType = vmdLoadExec) :
    ∃ outs last, (serve exec active sent).1 = outs ++ [last] ∧ isTerminal last = true ∧
      ∀ f ∈ outs, isOutput f = true ∨ isTerminal f = true := by
  simp only [serve, hr, ht, vmdLoadExec, vmdPing, vmdShutdown, vmdStatus, Nat.reduceBEq, Bool.false_eq_true,
    if_false, if_true]
  split
  · exact ⟨[], _, rfl, rfl, by simp⟩
  · split
    · exact ⟨[], _, rfl, rfl, by simp⟩
    · split
      · exact ⟨[], _, rfl, rfl, by simp⟩
      · exact ⟨[], _, rfl, rfl, by simp⟩
      · rename_i chunks err code _
        refine ⟨(chunks.filter (· ≠ [])).map .output ++ errFrames err, .exit code, by simp, rfl, ?_⟩
        intro f hf
        rcases List.mem_append.mp hf with hf | hf
        · obtain ⟨c, _, rfl⟩ := List.mem_map.mp hf; exact .inl rfl
        · cases err with
          | none => simp [errFrames] at hf
          | some e => simp [errFrames] at hf; subst hf; exact .inr rfl

theorem unaffected (exec : Bytes → Run) (before : List Bytes) (good : Bytes) (d : Daemon) (hd : d.accepting = true)
    (h : ∀ s ∈ before, ¬ isShutdownReq s) :
    (handle exec (handleAll exec d before) good).2 = (serve exec (d.active + 1) good).1 := by
  rw [handleAll_eq exec before d hd h]
  simp [handle, hd]

/-- non-vacuity: a truncated LOAD_EXEC, garbage and a wrong version are not shutdown requests -/
example : ¬ isShutdownReq [1, 1, 0, 0, 10, 0, 0, 0, 65] ∧ ¬ isShutdownReq [200, 4, 0, 0, 0, 0, 0, 0] ∧ ¬ isShutdownReq [1, 4, 0] := by
  refine ⟨?_, ?_, ?_⟩
  · rintro ⟨h, rest, hr, hm⟩
    simp [recvHeader, vmdHeaderSize, vmdVersion, vmdMaxPayload, leVal] at hr
    obtain ⟨rfl, _⟩ := hr
    simp [vmdShutdown] at hm
  · rintro ⟨h, rest, hr, hm⟩
    simp [recvHeader, vmdHeaderSize, vmdVersion] at hr
  · rintro ⟨h, rest, hr, hm⟩
    simp [recvHeader, vmdHeaderSize] at hr

end NanoVerif.C18
