/-
C06 — shadow tests gate compilation (property theorems and the lemmas that serve them alone).
-/
import NanoVerif.Model.Gate
namespace NanoVerif.C06

theorem fold_allPassed (ts : List ShadowRun) (g : GateState) :
    (ts.foldl gateStep g).allPassed = (g.allPassed && ts.all fun t => t.usesExtern || t.falseAsserts == 0) := by
  induction ts generalizing g with
  | nil => simp
  | cons t ts ih =>
    rw [List.foldl_cons, ih, List.all_cons, ← Bool.and_assoc]
    congr 1
    unfold gateStep
    cases t.usesExtern <;> cases h : t.falseAsserts <;> simp

/-- The gate: the shadow run fails if and only if some executed (not skipped) shadow block saw a
    false assertion — wherever that block is among the others, however many passing blocks come
    before or after it, however many assertions failed in it. -/
theorem gate_iff (ts : List ShadowRun) :
    (runShadowTests ts).allPassed = false ↔ ∃ t ∈ ts, t.usesExtern = false ∧ t.falseAsserts > 0 := by
  simp [runShadowTests, fold_allPassed, Nat.pos_iff_ne_zero]

/-- a failing run never reaches transpilation (no C file, no executable) and exits non-zero; a
    passing run goes on, and then the exit status is decided by the later phases alone -/
theorem driver_gate (ts : List ShadowRun) (restOk : Bool) :
    ((∃ t ∈ ts, t.usesExtern = false ∧ t.falseAsserts > 0) →
        (phase5 ts restOk).exitCode ≠ 0 ∧ (phase5 ts restOk).reachesTranspile = false) ∧
    ((¬ ∃ t ∈ ts, t.usesExtern = false ∧ t.falseAsserts > 0) →
        (phase5 ts restOk).reachesTranspile = true ∧ ((phase5 ts restOk).exitCode = 0 ↔ restOk = true)) := by
  constructor
  · intro h
    have := (gate_iff ts).mpr h
    simp [phase5, this]
  · intro h
    have : (runShadowTests ts).allPassed = true := by simpa using mt (gate_iff ts).mp h
    cases restOk <;> simp [phase5, this]

theorem fold_failures (ts : List ShadowRun) (g : GateState) :
    (ts.foldl gateStep g).failures = g.failures ++
      (ts.filter fun t => !t.usesExtern && decide (t.falseAsserts > 0)).map fun t => (t.name, t.falseAsserts) := by
  induction ts generalizing g with
  | nil => simp
  | cons t ts ih =>
    simp only [List.foldl_cons, ih]
    unfold gateStep
    by_cases he : t.usesExtern
    · simp [he]
    · by_cases hf : t.falseAsserts > 0 <;> simp [he, hf]

/-- every failing test is named, once, in source order, with its number of failed assertions -/
theorem failures_named (ts : List ShadowRun) :
    (runShadowTests ts).failures =
      (ts.filter fun t => !t.usesExtern && decide (t.falseAsserts > 0)).map fun t => (t.name, t.falseAsserts) := by
  unfold runShadowTests
  rw [fold_failures]; simp

/- non-vacuity: the failing block is the last of three, after a skipped and a passing one -/
example : (runShadowTests [⟨"a", true, 3⟩, ⟨"b", false, 0⟩, ⟨"c", false, 2⟩]).allPassed = false := by decide
example : (runShadowTests [⟨"a", true, 3⟩, ⟨"b", false, 0⟩, ⟨"c", false, 2⟩]).failures = [("c", 2)] := by decide
example : phase5 [⟨"a", true, 3⟩, ⟨"b", false, 0⟩] true = { exitCode := 0, reachesTranspile := true } := by decide

end NanoVerif.C06
