/-
C14 — the VM heap never frees or loses count of a referenced object (property theorems only).

`HeapOk s` (= `VOK s` = `HX (rootsOf s.toCore s.frames) s.heap []`): at an instruction boundary
  * every live object's count is at least the number of references to it from the operand stack
    (locals included), the globals, the closures of the active frames and from other live objects (`rc`),
  * everything referenced from there is live (`closed`) - no dangling value,
  * the object behind a value has the value's kind (`kinds`),
  * addresses are unique, allocation ids only grow, the `dangling` flag (set whenever the C code would
    touch a freed object) is clear.
The theorems say that this holds in the initial state, is kept by every instruction of the VM model
for every operand, stack height and heap, hence holds in every reachable state of every module, with
or without verifier, for any instruction budget.
-/
import NanoVerif.Lemmas.HeapRun
namespace NanoVerif.C14
open Gen (Opc)

abbrev HeapOk (s : VmState) : Prop := VOK s

theorem heap_ok_init : HeapOk {} := vok_init

/-- `HeapOk` spelled out in terms of `get?` -/
theorem no_dangling (s : VmState) (h : HeapOk s) :
    (∀ v ∈ rootsOf s.toCore s.frames, ∀ a, v.addr? = some a →
        ∃ cell, s.heap.get? a = some cell ∧ v.okind = some cell.obj.kind) ∧
    (∀ a cell, s.heap.get? a = some cell → ∀ v ∈ cell.obj.kids, ∀ b, v.addr? = some b →
        ∃ cell', s.heap.get? b = some cell' ∧ v.okind = some cell'.obj.kind) ∧
    (∀ a cell, s.heap.get? a = some cell →
        (refsOf (rootsOf s.toCore s.frames) ++ heapRefs s.heap).count a ≤ cell.rc) ∧
    s.heap.dangling = false := by
  refine ⟨?_, ?_, ?_, h.clean⟩
  · intro v hv a ha
    obtain ⟨cell, hg⟩ := Heap.mem_key_get? (HX.live h (List.mem_append.mpr (Or.inl hv)) ha)
    exact ⟨cell, hg, h.kinds.1 v (List.mem_append.mpr (Or.inl hv)) a cell ha (Heap.get?_some_mem hg)⟩
  · intro a cell hg v hv b hb
    have hm := Heap.get?_some_mem hg
    obtain ⟨cell', hg'⟩ := Heap.mem_key_get? (HX.liveKid h (obj?_of_get? hg) hv hb)
    exact ⟨cell', hg', h.kinds.2 (a, cell) hm v hv b cell' hb (Heap.get?_some_mem hg')⟩
  · intro a cell hg
    have := h.rc (a, cell) (Heap.get?_some_mem hg)
    simpa using this

/-- `vm_release` (recursive, any work list): objects are freed only when nothing references them
    any more, nothing dead is touched, the invariant is kept -/
theorem release_safe (roots : List Val) (h : Heap) (ws extra : List Val) (hn : h.keys.Nodup)
    (hi : RcInv roots h (ws ++ extra)) (hc : Closed roots h (ws ++ extra)) :
    RcInv roots (h.release ws) extra ∧ Closed roots (h.release ws) extra ∧ (h.release ws).keys.Nodup
      ∧ (h.release ws).dangling = h.dangling :=
  let ⟨a, b, c, d, _⟩ := release_inv roots h ws extra hn hi hc
  ⟨a, b, c, d⟩

/-- an address that has left the heap does not come back with the next allocation: allocation hands out
    `next`, which is above every address used so far (so no object can be released a second time under a
    reused id) -/
theorem freed_once (h : Heap) (o : Obj) (a : Nat) (hfresh : ∀ k ∈ h.keys, k < h.next) (hdead : a < h.next) (hna : a ∉ h.keys) :
    a ∉ (h.alloc o).1.keys ∧ (h.alloc o).2 ≠ a := by
  unfold Heap.alloc Heap.keys at *
  simp only [List.map_append, List.map_cons, List.map_nil, List.mem_append, List.mem_singleton, not_or]
  exact ⟨⟨hna, by omega⟩, by omega⟩

/-- `vm_release(old); slot = new` on a child of a container (ARR_SET, ARR_REMOVE, STRUCT_SET, STORE_UPVALUE
    release the old child while the container still points at it): if the container `a` survives the release,
    storing into it before or after the release gives the same heap, so the release may be reasoned about with
    the child already taken out.  That `a` survives, because somebody still holds it, is shown where the
    theorem is used (`HX.replaceKid`). -/
theorem release_then_store (h : Heap) (ws : List Val) (a : Nat) (o : Obj) (halive : a ∈ (h.release ws).keys) :
    (h.setObj a o).release ws = (h.release ws).setObj a o :=
  release_setObj h ws a o halive

/-- **every data instruction keeps the heap invariant**: all opcodes of `vm_core_execute` other than the four
    call/return instructions (strings, arrays, structs, unions, tuples, closures, upvalues, casts, printing,
    arithmetic on any operand kinds), for every operand, stack height and heap - including stacks that are too
    short, wrong operand kinds and indices out of range -/
theorem instr_heap_ok (m : Module) (s : VmState) (is : Nat) (op : Opc) (args : List Nat) (h : HeapOk s) :
    OK (execData' m (s.frames.headD default) s.toCore is op args).1 s.frames :=
  (execData_good h op (closureHeld_head s.frames)).1

/-- **one iteration of the dispatch loop keeps the heap invariant**: fetch and decode, any instruction
    (CALL, CALL_INDIRECT, CLOSURE_CALL with the closure reference moving into the frame, RET with the release
    of the frame's slots and closure), decode errors, the implicit return at the end of a function -/
theorem step_heap_ok (m : Module) (s : VmState) (h : HeapOk s) : HeapOk (step m s).1 := (step_good m s h).1

/-- the state after `n` iterations of the dispatch loop (stops when the core leaves `running`) -/
def stepN (m : Module) : Nat → VmState → VmState
  | 0, s => s
  | n+1, s => match step m s with
    | (s', .running) => stepN m n s'
    | (s', _) => s'

/-- **the invariant holds in every reachable state**: after any number of instructions from any state that
    satisfies it, for any module whatsoever (verified or not) -/
theorem reachable_heap_ok (m : Module) (n : Nat) : ∀ s, HeapOk s → HeapOk (stepN m n s) := by
  induction n with
  | zero => intro s h; exact h
  | succ k ih =>
    intro s h
    have hs := step_heap_ok m s h
    unfold stepN
    split
    · rename_i s' heq; rw [heq] at hs; exact ih s' hs
    · rename_i s' o hne heq; rw [heq] at hs; exact hs

/-- **`vm_execute` on any module, with any instruction budget, ends in a state that satisfies the invariant**
    (`__init__`, entry point, frames, traps) -/
theorem execute_heap_ok (m : Module) (fuel : Nat) : HeapOk (execute m fuel).1 := (execute_good m fuel).1

/-- **no program can observe a dangling value**: the model's outcome `dangling` - raised wherever the C code
    would dereference a freed object or find an object of another kind behind a value - is unreachable -/
theorem never_dangling (m : Module) (fuel : Nat) (w : String) : (execute m fuel).2 ≠ .dangling w :=
  (execute_good m fuel).2 w

/- non-vacuity: a state with a string shared by two stack slots and by an array element (count 3), and the
   array held by a global, satisfies the invariant -/
example : HeapOk { stack := [.str 0, .str 0, .int 5], globals := [.arr 1],
                   heap := { cells := [(0, { rc := 3, obj := .str [104] }), (1, { rc := 1, obj := .arr 0 [.str 0] })], next := 2 } } := by
  refine ⟨by decide, by decide, rfl, ?_, ?_, ?_⟩
  · intro p hp
    simp only [List.mem_cons, List.mem_nil_iff, or_false] at hp
    rcases hp with rfl | rfl <;> decide
  · intro a ha
    have : a = 0 ∨ a = 1 := by
      simp [rootsOf, refsOf, heapRefs, Val.addr?, Obj.kids] at ha
      omega
    rcases this with rfl | rfl <;> decide
  · constructor
    · intro v hv a c ha hm
      simp [rootsOf] at hv
      simp only [List.mem_cons, List.mem_nil_iff, or_false] at hm
      rcases hv with rfl | rfl | rfl <;> rcases hm with hm | hm <;> simp_all [Val.addr?, Val.okind, Obj.kind]
    · intro p hp v hv a c ha hm
      simp only [List.mem_cons, List.mem_nil_iff, or_false] at hp hm
      rcases hp with rfl | rfl <;> simp [Obj.kids] at hv
      subst hv
      rcases hm with hm | hm <;> simp_all [Val.addr?, Val.okind, Obj.kind]

/- and a state whose count is too low does not -/
example : ¬ HeapOk { stack := [.str 0, .str 0], heap := { cells := [(0, { rc := 1, obj := .str [104] })], next := 1 } } := by
  intro h
  have := h.rc (0, { rc := 1, obj := .str [104] }) (by simp)
  revert this; decide

end NanoVerif.C14
