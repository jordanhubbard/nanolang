/-
C05 — ill-formed programs are never turned into a runnable artifact.

Model: `Tc.tcProgram` (Model/Tc.lean), the static rules of the fragment as an executable checker, and the
decision logic of the three tools (`tool`): lex → parse → imports → type check → shadow tests and C compiler
(nanoc) or code generation (nano_virt) → write / run.

The rule catalogue of the property, one theorem per rule, in inversion form ("if the checker accepts, the rule
holds") so that the contrapositive is the rejection of every violating node, whatever surrounds it
(`unknown_name_rejected` states the rejection directly); each speaks of one `tcExpr` / `tcStmt` node in a given
scope, none of `tcProgram` composing them:
  operands (`arith_operands`, `compare_operands`, `logic_operands`, `plus_operands`, `unary_operand`),
  arguments and arity (`args_arity`, `args_types`, `call_checked`), unknown / out-of-scope names
  (`unknown_name_rejected`, `block_scope_closed`, `if_scope_closed`), immutability (`set_requires_mut`), return
  on every path and its type (`nonvoid_returns_all`, `return_type`), bool conditions (`if_cond_bool`,
  `while_cond_bool`, `assert_cond_bool`), fields (`field_defined`), `break` outside a loop (`break_in_loop`;
  `continue` has the same rule in `tcStmt`).
`no_artifact`: in the table `tool`, which records the drivers' phase order, a failed check gives exit status
non-zero, nothing written and nothing run whatever the other phases say; a fact about that table, which no
correspondence run touches, not about the tools.

The tie to src/typechecker.c is the accept/reject correspondence on well-typed programs and every
single-point mutant of the catalogue; where typechecker.c accepts a program this checker rejects, the
run reports it (violation or listed finding) — the model is not bent to the implementation.
-/
import NanoVerif.Lemmas.TcInv

namespace NanoVerif.C05
open NanoVerif NanoVerif.Tc Gen

/-- `- * / %` take two ints and give an int -/
theorem arith_operands (env : Env) (sc : Scope) (op : TT) (a b : Expr) (τ : Ty)
    (hop : op = .T_MINUS ∨ op = .T_STAR ∨ op = .T_SLASH ∨ op = .T_PERCENT)
    (h : tcExpr env sc (.prefixOp op [a, b]) = some τ) :
    tcExpr env sc a = some .int ∧ tcExpr env sc b = some .int ∧ τ = .int := by
  obtain ⟨ta, tb, ha, hb, hr⟩ := tcExpr_bin h
  rcases hop with rfl | rfl | rfl | rfl <;> cases hr <;> exact ⟨ha, hb, rfl⟩

/-- `+` takes two ints or two strings -/
theorem plus_operands (env : Env) (sc : Scope) (a b : Expr) (τ : Ty)
    (h : tcExpr env sc (.prefixOp .T_PLUS [a, b]) = some τ) :
    (tcExpr env sc a = some .int ∧ tcExpr env sc b = some .int ∧ τ = .int) ∨
    (tcExpr env sc a = some .string ∧ tcExpr env sc b = some .string ∧ τ = .string) := by
  obtain ⟨ta, tb, ha, hb, hr⟩ := tcExpr_bin h
  cases hr
  · exact .inl ⟨ha, hb, rfl⟩
  · exact .inr ⟨ha, hb, rfl⟩

/-- `< <= > >=` take two ints and give a bool -/
theorem compare_operands (env : Env) (sc : Scope) (op : TT) (a b : Expr) (τ : Ty)
    (hop : op = .T_LT ∨ op = .T_LE ∨ op = .T_GT ∨ op = .T_GE)
    (h : tcExpr env sc (.prefixOp op [a, b]) = some τ) :
    tcExpr env sc a = some .int ∧ tcExpr env sc b = some .int ∧ τ = .bool := by
  obtain ⟨ta, tb, ha, hb, hr⟩ := tcExpr_bin h
  rcases hop with rfl | rfl | rfl | rfl <;> cases hr <;> exact ⟨ha, hb, rfl⟩

/-- `and`, `or` take two bools -/
theorem logic_operands (env : Env) (sc : Scope) (op : TT) (a b : Expr) (τ : Ty) (hop : op = .T_AND ∨ op = .T_OR)
    (h : tcExpr env sc (.prefixOp op [a, b]) = some τ) :
    tcExpr env sc a = some .bool ∧ tcExpr env sc b = some .bool ∧ τ = .bool := by
  obtain ⟨ta, tb, ha, hb, hr⟩ := tcExpr_bin h
  rcases hop with rfl | rfl <;> cases hr <;> exact ⟨ha, hb, rfl⟩

/-- unary `-` takes an int, `not` a bool -/
theorem unary_operand (env : Env) (sc : Scope) (op : TT) (a : Expr) (τ : Ty)
    (h : tcExpr env sc (.prefixOp op [a]) = some τ) :
    (op = .T_MINUS ∧ tcExpr env sc a = some .int ∧ τ = .int) ∨ (op = .T_NOT ∧ tcExpr env sc a = some .bool ∧ τ = .bool) :=
  tcExpr_un h

/-- arity: an accepted argument list has exactly as many arguments as the function has parameters -/
theorem args_arity (env : Env) (sc : Scope) : ∀ (args : List Expr) (ps : List Ty), tcArgs env sc args ps = true → args.length = ps.length
  | [], _, h => by cases tcArgs_nil h; rfl
  | a :: r, _, h => by
    obtain ⟨t, ts, _, rfl, -, -, hr⟩ := tcArgs_cons h
    rw [List.length_cons, List.length_cons, args_arity env sc r ts hr]

/-- … and every argument has the parameter's type -/
theorem args_types (env : Env) (sc : Scope) : ∀ (args : List Expr) (ps : List Ty), tcArgs env sc args ps = true →
    ∀ (k : Nat) (a : Expr) (t : Ty), args[k]? = some a → ps[k]? = some t → ∃ ta, tcExpr env sc a = some ta ∧ tyEq ta t = true
  | [], _, _ => nofun
  | a0 :: r, _, h => by
    obtain ⟨t0, ts, ta, rfl, hta, hty, hr⟩ := tcArgs_cons h
    intro k a t ha ht
    cases k with
    | zero => cases ha; cases ht; exact ⟨ta, hta, hty⟩
    | succ k => exact args_types env sc r ts hr k a t ha ht

/-- a call of a user function is accepted only with the declared arity and argument types -/
theorem call_checked (env : Env) (sc : Scope) (f : String) (args : List Expr) (sig : Sig) (τ : Ty)
    (hb : builtinSig f = none) (hf : env.fns.find? (fun (p : String × Sig) => p.1 == f) = some (f, sig))
    (hn : f ≠ "println" ∧ f ≠ "print" ∧ f ≠ "array_length" ∧ f ≠ "at" ∧ f ≠ "array_push" ∧ f ≠ "range")
    (h : tcExpr env sc (.call f args) = some τ) :
    tcArgs env sc args sig.params = true ∧ τ = sig.ret := by
  obtain ⟨h1, h2, h3, h4, h5, h6⟩ := hn
  rw [tcExpr.eq_def] at h
  simp [h1, h2, h3, h4, h5, h6, hb, hf] at h
  exact ⟨h.1, h.2.symm⟩

/-- unknown name: neither in scope nor global ⇒ rejected -/
theorem unknown_name_rejected (env : Env) (sc : Scope) (x : String) (h : findVar sc env.globals x = none) :
    tcExpr env sc (.ident x) = none := by
  simp [tcExpr, h]

/-- a block's declarations do not escape: the scope after a block statement is the scope before it, so a
    later use of a name declared only inside the block is an unknown name -/
theorem block_scope_closed (env : Env) (ret : Ty) (l : Bool) (sc sc' : Scope) (ss : List Stmt)
    (h : tcStmt env ret l sc (.block ss) = some sc') : sc' = sc :=
  (tcStmt_block h).1

theorem if_scope_closed (env : Env) (ret : Ty) (l : Bool) (sc sc' : Scope) (c : Expr) (t : List Stmt) (e : Option (List Stmt)) (b : Bool)
    (h : tcStmt env ret l sc (.ifS c t e b) = some sc') : sc' = sc :=
  (tcStmt_if h).1

/-- assignment needs a mutable binding in scope (parameters and plain `let` are immutable) -/
theorem set_requires_mut (env : Env) (ret : Ty) (l : Bool) (sc sc' : Scope) (x : String) (e : Expr)
    (h : tcStmt env ret l sc (.setS x e) = some sc') :
    ∃ b, findVar sc env.globals x = some b ∧ b.isMut = true :=
  let ⟨_, b, _, hb, _, hm, _⟩ := tcStmt_set h
  ⟨b, hb, hm⟩

theorem if_cond_bool (env : Env) (ret : Ty) (l : Bool) (sc sc' : Scope) (c : Expr) (t : List Stmt) (e : Option (List Stmt)) (b : Bool)
    (h : tcStmt env ret l sc (.ifS c t e b) = some sc') : tcExpr env sc c = some .bool :=
  (tcStmt_if h).2.1

theorem while_cond_bool (env : Env) (ret : Ty) (l : Bool) (sc sc' : Scope) (c : Expr) (body : List Stmt)
    (h : tcStmt env ret l sc (.whileS c body) = some sc') : tcExpr env sc c = some .bool :=
  (tcStmt_while h).2.1

theorem assert_cond_bool (env : Env) (ret : Ty) (l : Bool) (sc sc' : Scope) (c : Expr)
    (h : tcStmt env ret l sc (.assertS c) = some sc') : tcExpr env sc c = some .bool :=
  (tcStmt_assert h).2

/-- `return e` needs the function's return type -/
theorem return_type (env : Env) (ret : Ty) (l : Bool) (sc sc' : Scope) (e : Expr)
    (h : tcStmt env ret l sc (.ret (some e)) = some sc') : ∃ te, tcExpr env sc e = some te ∧ tyEq te ret = true :=
  (tcStmt_ret_some h).2

/-- a function with a non-void return type returns on every path -/
theorem nonvoid_returns_all (env : Env) (n : String) (ps : List Param) (rt : Ty) (body : List Stmt)
    (h : tcItem env (.fn n ps rt body) = true) (hv : tyEq rt .void = false) : returnsAll body = true := by
  simp only [tcItem, Bool.and_eq_true, Bool.or_eq_true, hv] at h
  simpa using h.2

theorem break_in_loop (env : Env) (ret : Ty) (l : Bool) (sc sc' : Scope)
    (h : tcStmt env ret l sc .breakS = some sc') : l = true :=
  (tcStmt_break h).2

theorem fst_eq_of_find {β : Type} {l : List (String × β)} {k : String} {p : String × β} (h : l.find? (·.1 == k) = some p) :
    p.1 = k :=
  eq_of_beq (List.find?_some h :)

/-- field access needs a struct type that declares the field -/
theorem field_defined (env : Env) (sc : Scope) (e : Expr) (fld : String) (τ : Ty)
    (h : tcExpr env sc (.field e fld) = some τ) :
    ∃ n fs, tcExpr env sc e = some (.named n) ∧ env.structs.find? (·.1 == n) = some (n, fs) ∧
      ∃ ft, fs.find? (·.1 == fld) = some (fld, ft) ∧ τ = ft := by
  rw [tcExpr] at h
  split at h
  · split at h
    · rename_i n hn _ n' fs hs
      obtain ⟨⟨pn, pt⟩, hf, rfl⟩ := Option.map_eq_some_iff.mp h
      cases fst_eq_of_find hs
      cases fst_eq_of_find hf
      exact ⟨_, fs, hn, hs, pt, hf, rfl⟩
    · cases h
  · cases h

inductive Mode | nanoc | virtRun | virtEmit
deriving DecidableEq, Repr

structure ToolRun where
  exit : Nat
  artifact : Bool        -- an executable / .nvm file was written
  ran : Bool             -- the program was executed
deriving DecidableEq, Repr

/-- phases of `compile_file` (src/main.c) and of nano_virt's `main`: each stops the tool with status 1 -/
def tool (m : Mode) (lexOk parseOk importsOk tcOk shadowOk cgOk ccOk : Bool) : ToolRun :=
  if !lexOk then ⟨1, false, false⟩
  else if !parseOk then ⟨1, false, false⟩
  else if !importsOk then ⟨1, false, false⟩
  else if !tcOk then ⟨1, false, false⟩
  else match m with
    | .nanoc => if !shadowOk then ⟨1, false, false⟩ else if !ccOk then ⟨1, false, false⟩ else ⟨0, true, false⟩
    | .virtRun => if !cgOk then ⟨1, false, false⟩ else ⟨0, false, true⟩
    | .virtEmit => if !cgOk then ⟨1, false, false⟩ else ⟨0, true, false⟩

theorem no_artifact (m : Mode) (lexOk parseOk importsOk shadowOk cgOk ccOk : Bool) :
    let r := tool m lexOk parseOk importsOk false shadowOk cgOk ccOk
    r.exit ≠ 0 ∧ r.artifact = false ∧ r.ran = false := by
  cases lexOk <;> cases parseOk <;> cases importsOk <;> simp [tool]

/-- non-vacuity: `set` on an immutable binding and `if 1 { }` are rejected, the mutable variant accepted -/
example : tcStmt {} .int false [⟨"x", .int, false⟩] (.setS "x" (.num 1)) = none := rfl
example : tcStmt {} .int false [⟨"x", .int, true⟩] (.setS "x" (.num 1)) = some [⟨"x", .int, true⟩] := rfl
example : tcStmt {} .int false [] (.ifS (.num 1) [] none false) = none := rfl

end NanoVerif.C05
