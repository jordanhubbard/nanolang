/-
C17 — daemon execution is transparent and concurrent clients are isolated.

Model: `Model/Vmd.lean` — wire framing (constants regenerated from vmd_protocol.h), the session handler
`serve`, the client's reassembly loop, and a descriptor-level process model in which any number of session
threads issue accept / write / close events in an arbitrary interleaving.

  * `isolation`: for EVERY interleaving of ANY number of sessions that follow the session discipline (one
    connection, writes, at most one close, nothing afterwards) each client receives exactly the bytes its own
    session wrote, in order, and nothing else — descriptor numbers are reused by the kernel, and the proof is
    the ownership invariant that makes that harmless.  The discipline is necessary (`example`, evaluated on
    the model; seeded defect C17_2 is the same stale number used for a second close).
  * `reassembly` / `transparent`: however stdio chops a program's output into OUTPUT frames, the client
    reassembles exactly the standalone output bytes, error text and exit code.

What the model cannot exhibit: races on process-wide memory below the system-call level (a shared stdio
buffer, the CRC table initialisation).  Those are looked for on the real daemon — concurrent clients with
arrival jitter, perturbed schedules, a ThreadSanitizer build — and the real daemon's system-call trace is
checked against the session discipline the theorem assumes.
-/
import NanoVerif.Model.Vmd

namespace NanoVerif.C17
open NanoVerif NanoVerif.Vmd Gen

inductive Phase | fresh | opened | closed
deriving DecidableEq, Repr

def phaseStep (ph : Nat → Phase) : Ev → Option (Nat → Phase)
  | .accept s => if ph s = .fresh then some (fun t => if t = s then .opened else ph t) else none
  | .write s _ => if ph s = .opened then some ph else none
  | .close s => if ph s = .opened then some (fun t => if t = s then .closed else ph t) else none

def disciplined : (Nat → Phase) → List Ev → Prop
  | _, [] => True
  | ph, e :: r => ∃ ph', phaseStep ph e = some ph' ∧ disciplined ph' r

def writesOf (sid : Nat) : List Ev → Bytes
  | [] => []
  | .write s b :: r => if s = sid then b ++ writesOf sid r else writesOf sid r
  | _ :: r => writesOf sid r

/-- `w` and `recvEq` carry nothing: every use takes `w := p.recv` and proves the field by `rfl` -/
structure Inv (p : Proc) (ph : Nat → Phase) (w : Nat → Bytes) : Prop where
  heldOpen : ∀ s, ph s = .opened → ∃ fd, p.held s = some fd ∧ p.openAt fd = some s
  openOwned : ∀ fd c, p.openAt fd = some c → ph c = .opened ∧ p.held c = some fd
  bounded : ∀ k, p.bound ≤ k → p.openAt k = none
  recvEq : ∀ c, p.recv c = w c

theorem lowestFree_free (p : Proc) (hb : ∀ k, p.bound ≤ k → p.openAt k = none) : p.openAt (lowestFree p) = none := by
  unfold lowestFree
  cases h : (List.range p.bound).find? (fun k => (p.openAt k).isNone) with
  | none => simpa using hb p.bound (Nat.le_refl _)
  | some k =>
    have := List.find?_some h
    simpa using this

theorem step_inv {p : Proc} {ph ph' : Nat → Phase} {e : Ev} (hi : Inv p ph p.recv)
    (hs : phaseStep ph e = some ph') : Inv (step p e) ph' (step p e).recv := by
  cases e with
  | accept s =>
    simp only [phaseStep, Option.ite_some_none_eq_some] at hs
    obtain ⟨hf, rfl⟩ := hs
    have hfree := lowestFree_free p hi.bounded
    refine ⟨?_, ?_, ?_, fun _ => rfl⟩
    · intro t ht
      by_cases hts : t = s
      · subst hts; exact ⟨lowestFree p, by simp [step], by simp [step]⟩
      · simp [hts] at ht
        obtain ⟨fd, h1, h2⟩ := hi.heldOpen t ht
        refine ⟨fd, by simp [step, hts, h1], ?_⟩
        have : fd ≠ lowestFree p := by intro e; rw [e, hfree] at h2; cases h2
        simp [step, this, h2]
    · intro fd c hc
      simp only [step] at hc
      by_cases hfd : fd = lowestFree p
      · simp [hfd] at hc; subst hc; simp [step, hfd]
      · simp [hfd] at hc
        obtain ⟨h1, h2⟩ := hi.openOwned fd c hc
        have hcs : c ≠ s := by intro e; rw [e, hf] at h1; cases h1
        simp [step, hcs, h1, h2]
    · intro k hk
      simp only [step] at hk ⊢
      have h1 : k ≠ lowestFree p := by omega
      have h2 : p.bound ≤ k := by omega
      simp [h1, hi.bounded k h2]
  | write s b =>
    simp only [phaseStep, Option.ite_some_none_eq_some] at hs
    obtain ⟨ho, rfl⟩ := hs
    obtain ⟨fd, h1, h2⟩ := hi.heldOpen s ho
    simp only [step, h1, h2]
    exact ⟨hi.heldOpen, hi.openOwned, hi.bounded, fun _ => rfl⟩
  | close s =>
    simp only [phaseStep, Option.ite_some_none_eq_some] at hs
    obtain ⟨ho, rfl⟩ := hs
    obtain ⟨fd, h1, h2⟩ := hi.heldOpen s ho
    refine ⟨?_, ?_, ?_, fun _ => rfl⟩
    · intro t ht
      by_cases hts : t = s
      · simp [hts] at ht
      · simp [hts] at ht
        obtain ⟨fd', g1, g2⟩ := hi.heldOpen t ht
        have : fd' ≠ fd := by
          intro e; rw [e, h2] at g2; injection g2 with g2; exact hts g2.symm
        exact ⟨fd', by simp [step, h1, g1], by simp [step, h1, this, g2]⟩
    · intro fd' c hc
      simp only [step, h1] at hc ⊢
      by_cases hfd : fd' = fd
      · simp [hfd] at hc
      · simp [hfd] at hc
        obtain ⟨g1, g2⟩ := hi.openOwned fd' c hc
        have hcs : c ≠ s := by
          intro e; rw [e, h1] at g2; injection g2 with g2; exact hfd g2.symm
        simp [hcs, g1, g2]
    · intro k hk
      simp only [step, h1] at hk ⊢
      by_cases hkf : k = fd <;> simp [hkf, hi.bounded k hk]

/-- a disciplined write lands on the writer's own connection; nothing else is received anywhere -/
theorem step_recv {p : Proc} {ph ph' : Nat → Phase} {w : Nat → Bytes} {e : Ev} (hi : Inv p ph w)
    (hs : phaseStep ph e = some ph') (sid : Nat) :
    (step p e).recv sid = p.recv sid ++ writesOf sid [e] := by
  cases e with
  | accept s => simp [step, writesOf]
  | close s => simp only [step]; split <;> simp [writesOf]
  | write s b =>
    simp only [phaseStep, Option.ite_some_none_eq_some] at hs
    obtain ⟨fd, h1, h2⟩ := hi.heldOpen s hs.1
    simp only [step, h1, h2, writesOf]
    by_cases h : sid = s <;> simp [h, Ne.symm]

theorem writesOf_cons (sid : Nat) (e : Ev) (r : List Ev) :
    writesOf sid (e :: r) = writesOf sid [e] ++ writesOf sid r := by
  cases e <;> simp only [writesOf, List.nil_append, List.append_nil]
  split <;> simp

theorem run_recv (evs : List Ev) (p : Proc) (ph : Nat → Phase) (hi : Inv p ph p.recv) (hd : disciplined ph evs)
    (sid : Nat) : (evs.foldl step p).recv sid = p.recv sid ++ writesOf sid evs := by
  induction evs generalizing p ph with
  | nil => simp [writesOf]
  | cons e r ih =>
    obtain ⟨ph', hs, hr⟩ := hd
    rw [writesOf_cons sid e r, List.foldl_cons, ih _ ph' (step_inv hi hs) hr, step_recv hi hs, List.append_assoc]

theorem inv_init : Inv {} (fun _ => Phase.fresh) (fun _ => []) :=
  ⟨fun s h => (by cases h), fun fd c h => (by cases h), fun k _ => rfl, fun c => rfl⟩

theorem isolation (evs : List Ev) (h : disciplined (fun _ => Phase.fresh) evs) (sid : Nat) :
    (run evs).recv sid = writesOf sid evs := by
  simpa [run] using run_recv evs {} _ inv_init h sid

/-- the discipline is necessary ("nothing afterwards"): session 1 writes after its close, its stale
    descriptor number has been handed to client 2's connection (descriptor reuse), and session 1's output
    is delivered to client 2 -/
example :
    let evs := [Ev.accept 1, Ev.close 1, Ev.accept 2, Ev.write 1 [65], Ev.write 2 [66]]
    (run evs).recv 2 = [65, 66] ∧ (run evs).recv 1 = [] := by
  decide

@[simp] theorem encodeHdr_length (h : Hdr) : (encodeHdr h).length = 8 := by simp [encodeHdr]

theorem recvHeader_encodeHdr (h : Hdr) (rest : Bytes) (hv : h.version = vmdVersion) (ht : h.msgType < 256)
    (hf : h.flags < 256 ^ 2) (hl : h.len ≤ vmdMaxPayload) :
    recvHeader (encodeHdr h ++ rest) = some (h, rest) := by
  have hl4 : h.len < 256 ^ 4 := Nat.lt_of_le_of_lt hl (by decide)
  rw [recvHeader, List.drop_left' (show (encodeHdr h).length = vmdHeaderSize from encodeHdr_length h)]
  obtain ⟨v, t, fl, len⟩ := h
  simp_all [encodeHdr, vmdHeaderSize, vmdVersion, Nat.not_lt.mpr hl, leVal_leBytes_of_lt, Nat.mod_eq_of_lt ht]
  omega

theorem recv_encode (t len : Nat) (ht : t < 256) (hl : len ≤ vmdMaxPayload) (rest : Bytes) :
    recvHeader (encodeHdr ⟨vmdVersion, t, 0, len⟩ ++ rest) = some (⟨vmdVersion, t, 0, len⟩, rest) :=
  recvHeader_encodeHdr _ rest rfl ht (by decide : (0 : Nat) < 256 ^ 2) hl

theorem loop_output {f : Nat} {b tail : Bytes} {v : View} (hb : b.length ≤ vmdMaxPayload) :
    clientLoop (f + 1) ((Frame.output b).encode ++ tail) v = clientLoop f tail { v with out := v.out ++ b } := by
  rw [Frame.encode, List.append_assoc, clientLoop, recv_encode vmdOutput b.length (by decide) hb]
  simp [Nat.not_lt.mpr (Nat.le_add_right b.length tail.length), vmdOutput]

theorem loop_error {f : Nat} {b tail : Bytes} {v : View} (hb : b.length ≤ vmdMaxPayload) (hne : b ≠ []) :
    clientLoop (f + 1) ((Frame.error b).encode ++ tail) v = clientLoop f tail { v with err := v.err ++ b ++ [10] } := by
  rw [Frame.encode, List.append_assoc, clientLoop, recv_encode vmdError b.length (by decide) hb]
  simp [Nat.not_lt.mpr (Nat.le_add_right b.length tail.length), hne, vmdOutput, vmdError]

theorem loop_exit {f code : Nat} {tail : Bytes} {v : View} (hc : code < 2 ^ 32) :
    clientLoop (f + 1) ((Frame.exit code).encode ++ tail) v = { v with exit := some code } := by
  rw [Frame.encode, List.append_assoc, clientLoop, recv_encode vmdExitCode 4 (by decide) (by decide)]
  simp [Nat.not_lt.mpr (Nat.le_add_right 4 tail.length), vmdOutput, vmdError, vmdExitCode,
    leVal_leBytes_of_lt 4 code hc]

theorem loop_outputs {cs : List Bytes} {f : Nat} {tail : Bytes} {v : View} (h : ∀ c ∈ cs, c.length ≤ vmdMaxPayload) :
    clientLoop (f + cs.length) (encodeFrames (cs.map Frame.output) ++ tail) v
      = clientLoop f tail { v with out := v.out ++ cs.flatten } := by
  induction cs generalizing v with
  | nil => simp [encodeFrames]
  | cons c r ih =>
    simp only [List.map_cons, encodeFrames, List.length_cons, List.append_assoc]
    rw [show f + (r.length + 1) = (f + r.length) + 1 by omega, loop_output (h c List.mem_cons_self),
      ih fun x hx => h x (List.mem_cons_of_mem _ hx)]
    simp [List.append_assoc]

theorem encodeFrames_append (a b : List Frame) : encodeFrames (a ++ b) = encodeFrames a ++ encodeFrames b := by
  induction a with
  | nil => simp [encodeFrames]
  | cons x r ih => simp [encodeFrames, ih]

theorem outputs_length (l : List Bytes) : l.length ≤ (encodeFrames (l.map Frame.output)).length := by
  induction l with
  | nil => simp [encodeFrames]
  | cons x r ih => simp [encodeFrames, Frame.encode]; omega

theorem reassembly_fuel (cs : List Bytes) (err : Option Bytes) (code : Nat) (tail : Bytes) (F : Nat) (hF : cs.length + 2 ≤ F)
    (hcs : ∀ c ∈ cs, c.length ≤ vmdMaxPayload) (herr : ∀ e, err = some e → e.length ≤ vmdMaxPayload ∧ e ≠ [])
    (hc : code < 2 ^ 32) :
    clientLoop F (encodeFrames (cs.map Frame.output ++ errFrames err ++ [Frame.exit code]) ++ tail) {}
      = { out := cs.flatten, err := errText err, exit := some code } := by
  obtain ⟨k, rfl⟩ : ∃ k, F = (k + 2) + cs.length := ⟨F - 2 - cs.length, by omega⟩
  simp only [encodeFrames_append, List.append_assoc]
  rw [loop_outputs hcs]
  cases err with
  | none =>
    simp only [errFrames, errText, encodeFrames, List.nil_append, List.append_nil]
    rw [loop_exit hc]
  | some e =>
    obtain ⟨he1, he2⟩ := herr e rfl
    simp only [errFrames, errText, encodeFrames, List.append_nil]
    rw [loop_error he1 he2, loop_exit hc]
    simp

theorem reassembly (cs : List Bytes) (err : Option Bytes) (code : Nat) (tail : Bytes)
    (hcs : ∀ c ∈ cs, c.length ≤ vmdMaxPayload) (herr : ∀ e, err = some e → e.length ≤ vmdMaxPayload ∧ e ≠ [])
    (hc : code < 2 ^ 32) :
    clientView (encodeFrames (cs.map Frame.output ++ errFrames err ++ [Frame.exit code]) ++ tail)
      = { out := cs.flatten, err := errText err, exit := some code } := by
  unfold clientView
  apply reassembly_fuel cs err code tail _ _ hcs herr hc
  have h2 := outputs_length cs
  simp only [encodeFrames_append, List.length_append]
  have : 8 ≤ (encodeFrames [Frame.exit code]).length := by simp [encodeFrames, Frame.encode]
  omega

theorem transparent (exec : Bytes → Run) (active : Nat) (blob : Bytes) (chunks : List Bytes) (err : Option Bytes) (code : Nat)
    (hb : blob ≠ [] ∧ blob.length ≤ vmdMaxPayload) (hrun : exec blob = .ran chunks err code)
    (hcs : ∀ c ∈ chunks, c.length ≤ vmdMaxPayload) (herr : ∀ e, err = some e → e.length ≤ vmdMaxPayload ∧ e ≠ [])
    (hc : code < 2 ^ 32) :
    clientView (encodeFrames (serve exec active (encodeHdr ⟨vmdVersion, vmdLoadExec, 0, blob.length⟩ ++ blob)).1)
      = { out := chunks.flatten, err := errText err, exit := some code } := by
  have hl : blob.length ≠ 0 := by simpa using hb.1
  rw [serve, recv_encode vmdLoadExec blob.length (by decide) hb.2 blob]
  simp only [vmdLoadExec, vmdPing, vmdShutdown, vmdStatus, Nat.reduceBEq, beq_eq_false_iff_ne.mpr hl,
    Bool.false_eq_true, if_false, if_true, Nat.lt_irrefl, List.take_length, hrun]
  have := reassembly (chunks.filter (· ≠ [])) err code [] (fun c hc' => hcs c (List.mem_filter.mp hc').1) herr hc
  rw [List.append_nil, List.flatten_filter_ne_nil] at this
  exact this

end NanoVerif.C17
