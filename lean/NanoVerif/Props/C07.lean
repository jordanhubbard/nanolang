/-
C07 — prefix and infix notation denote the same program.

Model: `Model/{Lexer,Parser,Compile}.lean`, tied to src/lexer.c, src/parser.c, src/nanovirt/codegen.c by the
byte-for-byte correspondence of the files `nano_virt --emit-nvm` writes.  A *styled tree* (`ST`,
Lemmas/ParseExpr.lean) is an expression tree over the 13 binary and 2 unary operators, number and `true`/`false`
literals (no string or float literals), variables, field accesses and calls in which every operator node says
whether it is written in prefix form `(op a b)` or in infix form; `printL` is its spelling as a token list and
`ST.toExpr` the tree it denotes.

`spelling_parses`: every valid spelling — any mix of the two notations, any depth `dL e` that fits under the
limit from the model's counter `d` — is parsed to exactly the tree it denotes.  `dL` counts what the model
counts: unlike parser.c (1279, 1310) it does not count runs of unary operators.  Consequently
(`infix_eq_prefix`) the infix spelling and the fully parenthesised prefix spelling of an expression give the
same AST, hence (`same_bytecode`) the same bytecode.  The theorems hold for all sufficiently large fuel (`Ev`);
fuel exists in the Lean definitions only, and the correspondence run counts the (zero) cases where it runs out.

`ST.validL` (conditions at its definition) excludes more than F-C07-2's identifier before `<`: an upper-case
first letter in any variable, callee or field name, and operator tokens in the positions listed there.  None
is an artefact: each is shown below on the model as a spelling that is read differently.
-/
import NanoVerif.Lemmas.ParseExpr
import NanoVerif.Model.Compile

namespace NanoVerif.C07
open NanoVerif Gen

theorem spelling_parses (e : ST) (hv : e.validL) (d : Nat) (rest : List Tok)
    (hd : d + dL e ≤ maxRecursionDepth) (hr : StopRest rest) :
    Ev (fun fuel => parseExpr fuel d (printL e ++ rest)) (.ok (e.toExpr, rest)) :=
  parseL_of_chain (chainL e hv d rest hd hr.1) hv hd hr

mutual
/-- the fully parenthesised prefix spelling of the same tree -/
def allPrefix : ST → ST
  | .num b => .num b
  | .var b => .var b
  | .tru => .tru
  | .fls => .fls
  | .un _ op e => .un true op (allPrefix e)
  | .bin _ op a b => .bin true op (allPrefix a) (allPrefix b)
  | .call f args => .call f (allPrefixs args)
  | .field e n => .field (allPrefix e) n
def allPrefixs : List ST → List ST
  | [] => []
  | a :: r => allPrefix a :: allPrefixs r
end

mutual
theorem allPrefix_toExpr (e : ST) : (allPrefix e).toExpr = e.toExpr := by
  match e with
  | .num _ | .var _ | .tru | .fls => simp [allPrefix, ST.toExpr]
  | .un _ op x => simp [allPrefix, ST.toExpr, allPrefix_toExpr x]
  | .bin _ op a b => simp [allPrefix, ST.toExpr, allPrefix_toExpr a, allPrefix_toExpr b]
  | .call f args => simp [allPrefix, ST.toExpr, allPrefixs_toExprs args]
  | .field x n => simp [allPrefix, ST.toExpr, allPrefix_toExpr x]
theorem allPrefixs_toExprs (l : List ST) : ST.toExprs (allPrefixs l) = ST.toExprs l := by
  match l with
  | [] => simp [allPrefixs, ST.toExprs]
  | a :: r => simp [allPrefixs, ST.toExprs, allPrefix_toExpr a, allPrefixs_toExprs r]
end

theorem allPrefix_startsOp (e : ST) : startsOp (allPrefix e) = false := by
  match e with
  | .field x n => exact allPrefix_startsOp x
  | .num _ | .var _ | .tru | .fls | .un _ _ _ | .bin _ _ _ _ | .call _ _ => rfl

/- what a tree needs for *some* spelling to be valid: operator tokens are operators, identifiers do
   not start with an upper-case letter -/
mutual
def wellFormed : ST → Prop
  | .num _ => True
  | .var b => lowerId b
  | .tru => True
  | .fls => True
  | .un _ op e => isUnOp op ∧ wellFormed e
  | .bin _ op a b => isBinOp op ∧ wellFormed a ∧ wellFormed b
  | .call f args => lowerId f ∧ wellFormeds args
  | .field e n => lowerId n ∧ wellFormed e
def wellFormeds : List ST → Prop
  | [] => True
  | a :: r => wellFormed a ∧ wellFormeds r
end

mutual
theorem allPrefix_valid (e : ST) (h : wellFormed e) : (allPrefix e).validL := by
  match e with
  | .num _ | .tru | .fls => trivial
  | .var b => exact h
  | .un _ op x => exact ⟨h.1, allPrefix_valid x h.2⟩
  | .bin _ op a b => exact ⟨h.1, allPrefix_valid a h.2.1, allPrefix_valid b h.2.2, allPrefix_startsOp b⟩
  | .call f args => exact ⟨h.1, allPrefixs_valid args h.2⟩
  | .field x n =>
    exact ⟨h.1, validL_validO _ (by cases x <;> simp [allPrefix]) (allPrefix_valid x h.2),
      by cases x <;> simp [allPrefix]⟩
theorem allPrefixs_valid (l : List ST) (h : wellFormeds l) : ST.validArgs (allPrefixs l) := by
  match l with
  | [] => trivial
  | a :: r => exact ⟨allPrefix_valid a h.1, allPrefix_startsOp a, allPrefixs_valid r h.2⟩
end

theorem infix_eq_prefix (e : ST) (hw : wellFormed e) (hv : e.validL) (d : Nat) (rest : List Tok)
    (hd : d + dL e ≤ maxRecursionDepth) (hdp : d + dL (allPrefix e) ≤ maxRecursionDepth) (hr : StopRest rest) :
    ∃ ast, Ev (fun fuel => parseExpr fuel d (printL e ++ rest)) (.ok (ast, rest)) ∧
           Ev (fun fuel => parseExpr fuel d (printL (allPrefix e) ++ rest)) (.ok (ast, rest)) :=
  ⟨e.toExpr, spelling_parses e hv d rest hd hr, by
    have := spelling_parses (allPrefix e) (allPrefix_valid e hw) d rest hdp hr
    rwa [allPrefix_toExpr] at this⟩

/-- the generator is a function of the tree -/
theorem same_bytecode (e1 e2 : ST) (h : e1.toExpr = e2.toExpr) (ce : CE) (cs : CS) :
    cExpr ce cs e1.toExpr = cExpr ce cs e2.toExpr := by rw [h]

def ia : Bytes := [97]
def ib : Bytes := [98]
def ic : Bytes := [99]
def ifn : Bytes := [102]
def ix : Bytes := [120]
def iy : Bytes := [121]
def iX : Bytes := [88]

/-- `a + b * - c.x + (f a (- b))` with `f` a call: a valid mixed spelling -/
def sample : ST :=
  .bin false .T_PLUS
    (.bin false .T_STAR (.bin false .T_PLUS (.var ia) (.var ib)) (.un false .T_MINUS (.field (.var ic) ix)))
    (.call ifn [.var ia, .un true .T_MINUS (.var ib)])

theorem sample_ok : sample.validL ∧ wellFormed sample ∧ 0 + dL sample ≤ maxRecursionDepth := by
  refine ⟨?_, ?_, by decide⟩ <;>
    simp [sample, ST.validL, ST.validO, ST.validArgs, wellFormed, wellFormeds, isBinOp, isUnOp, lowerId, startsOp,
      ia, ib, ic, ifn, ix, isUpperFirst] <;> decide

example : sample.validL ∧ wellFormed sample ∧ 0 + dL sample ≤ maxRecursionDepth := sample_ok

example : ∃ ast, Ev (fun fuel => parseExpr fuel 0 (printL sample ++ [tk .T_EOF])) (.ok (ast, [tk .T_EOF])) ∧
                 Ev (fun fuel => parseExpr fuel 0 (printL (allPrefix sample) ++ [tk .T_EOF])) (.ok (ast, [tk .T_EOF])) :=
  infix_eq_prefix sample sample_ok.2.1 sample_ok.1 0 [tk .T_EOF] sample_ok.2.2 (by decide) ⟨⟨by simp, nofun, nofun⟩, rfl⟩

/-- `( - a + b )`: an infix group that starts with an operator token is the prefix form `(- (a + b))` -/
example : parseExpr 20 0 [tk .T_LPAREN, tk .T_MINUS, tk .T_IDENTIFIER ia, tk .T_PLUS, tk .T_IDENTIFIER ib, tk .T_RPAREN, tk .T_EOF]
    = .ok (.prefixOp .T_MINUS [.prefixOp .T_PLUS [.ident (bytesToString ia), .ident (bytesToString ib)]], [tk .T_EOF]) := by
  with_unfolding_all rfl

/-- `(f a - b)` is a call with one argument, the subtraction -/
example : parseExpr 20 0 [tk .T_LPAREN, tk .T_IDENTIFIER ifn, tk .T_IDENTIFIER ia, tk .T_MINUS, tk .T_IDENTIFIER ib, tk .T_RPAREN, tk .T_EOF]
    = .ok (.call (bytesToString ifn) [.prefixOp .T_MINUS [.ident (bytesToString ia), .ident (bytesToString ib)]], [tk .T_EOF]) := by
  with_unfolding_all rfl

/-- `- y . f` is `-(y.f)` -/
example : parseExpr 20 0 [tk .T_MINUS, tk .T_IDENTIFIER iy, tk .T_DOT, tk .T_IDENTIFIER ifn, tk .T_EOF]
    = .ok (.prefixOp .T_MINUS [.field (.ident (bytesToString iy)) (bytesToString ifn)], [tk .T_EOF]) := by
  with_unfolding_all rfl

/-- F-C07-2 on the model: `X < y` with an upper-case `X` leaves the expression grammar (generic type
    syntax), while `(< X y)` is an ordinary comparison -/
example : parseExpr 20 0 [tk .T_IDENTIFIER iX, tk .T_LT, tk .T_IDENTIFIER iy, tk .T_EOF] = .error .unsupported := by
  with_unfolding_all rfl
example : parseExpr 20 0 [tk .T_LPAREN, tk .T_LT, tk .T_IDENTIFIER iX, tk .T_IDENTIFIER iy, tk .T_RPAREN, tk .T_EOF]
    = .ok (.prefixOp .T_LT [.ident (bytesToString iX), .ident (bytesToString iy)], [tk .T_EOF]) := by
  with_unfolding_all rfl

end NanoVerif.C07
