/-
C09 — the front end is total: every input ends in acceptance or a diagnostic.

Model: `lex` (Model/Lexer.lean, tied to `tokenize` token for token on valid programs and on token- and
byte-level mutants) and the parser model (Model/Parser.lean, tied through accept/reject and through the
byte-identical bytecode of C07/C01).

Proved here, for EVERY byte string:
  * `lexStep_progress` / `lex_total`: every scanning step leaves at most the tail of its input, so the scanner
    needs at most one step per input byte — the fuel `lex` passes (the input length) is never exhausted; `lex`
    is a total function whose only failures are the three lexical errors;
  * `lex_token_bound`: at most one token per input byte, plus the final EOF;
  * `lex_ends_eof`: a successful token list ends with EOF (the parser's cursor can always stop there);
  * `expr_depth_guard`, `block_depth_guard`: once the depth counter `d` has reached the limit regenerated
    from parser.c, `parseExpr` / `parseBlock` answer the depth error.  No theorem relates the nesting of the
    tokens to `d`, and the model does not count runs of unary operators as parser.c does;
  * reads are in bounds by construction: the model consumes a list, and `peek` beyond the end is EOF.
The parser model itself is a total Lean function (its termination is checked by the kernel), but it does not
contain the C parser's error *recovery*, which is where hangs come from.  That part — and crashes, sanitizer
reports and time — is covered by the search over mutated inputs on a sanitizer build, not by proof: the
level is partial.
-/
import NanoVerif.Model.Parser

namespace NanoVerif.C09
open NanoVerif Gen

theorem charLit_progress {cs rest : Bytes} {t : Option Tok} {b : Bool} (h : lexCharLit cs = .ok (rest, t, b)) :
    rest.length ≤ cs.length := by
  revert h
  fun_cases lexCharLit cs <;> intro h <;> cases h <;> simp <;> omega

theorem stringLit_progress {cs rest : Bytes} {t : Option Tok} {b : Bool} (h : lexStringLit cs = .ok (rest, t, b)) :
    rest.length ≤ cs.length := by
  revert h
  fun_cases lexStringLit cs with
  | case1 => nofun
  | case2 raw r hs => intro h; cases h; exact Nat.le_of_lt (scanString_length [] cs (raw, rest) hs)

theorem number_progress {c : UInt8} {cs rest : Bytes} {t : Option Tok} {b : Bool} (hc : isDigitB c = true ∨ c = 45)
    (h : lexNumber c cs = .ok (rest, t, b)) : rest.length ≤ cs.length := by
  -- the digits are dropped from `cs` itself: a leading `-` is not in `body`, a leading digit goes with the rest
  have hbody : ((if c == 45 then cs else c :: cs).dropWhile isDigitB).length ≤ cs.length := by
    split
    · exact (List.dropWhile_sublist _).length_le
    · rename_i h45
      have hd : isDigitB c = true := hc.resolve_right (by simpa using h45)
      simpa [List.dropWhile_cons, hd] using (List.dropWhile_sublist _).length_le
  revert h
  fun_cases lexNumber c cs with
  | case1 _ _ _ _ p f r' hr =>
    intro h; injection h with h; injection h with h; subst h
    have hb : (p :: f :: r').length ≤ cs.length := by rw [← hr]; exact hbody
    have := (List.dropWhile_sublist isDigitB (l := f :: r')).length_le
    simp only [List.length_cons] at hb this; omega
  | case2 | case3 => intro h; injection h with h; injection h with h; subst h; exact hbody

theorem ident_progress {c : UInt8} {cs rest : Bytes} {t : Option Tok} {b : Bool} (hc : isIdStartB c = true)
    (h : lexIdent c cs = .ok (rest, t, b)) : rest.length ≤ cs.length := by
  cases h
  have : isIdCharB c = true := by simp [isIdStartB, isIdCharB] at *; rcases hc with h | h <;> simp [h]
  simpa [List.dropWhile_cons, this] using (List.dropWhile_sublist _).length_le

theorem op_progress {c : UInt8} {cs rest : Bytes} {t : Option Tok} {b : Bool}
    (h : lexOp c cs = .ok (rest, t, b)) : rest.length ≤ cs.length := by
  revert h
  fun_cases lexOp c cs <;> intro h <;> cases h <;> simp

theorem lexStep_progress (c : UInt8) (cs rest : Bytes) (t : Option Tok) (b : Bool)
    (h : lexStep c cs = .ok (rest, t, b)) : rest.length ≤ cs.length := by
  revert h
  -- the branches of `lexStep` in order: blank, `#` comment, block comment, character, string, number, identifier, operator
  fun_cases lexStep c cs with
  | case1 => intro h; cases h; exact Nat.le_refl _
  | case2 => intro h; cases h; exact skipLine_length cs
  | case3 => intro h; cases h; exact Nat.le_trans (skipBlock_length _) (by simp)
  | case4 => exact charLit_progress
  | case5 => exact stringLit_progress
  | case6 _ _ _ _ _ hd =>
    refine number_progress ?_
    simp only [Bool.or_eq_true, Bool.and_eq_true, beq_iff_eq] at hd
    exact hd.imp_right (·.1)
  | case7 _ _ _ _ _ _ hi => exact ident_progress hi
  | case8 => exact op_progress

theorem lexGo_fuel (s : Bytes) : ∀ (f1 f2 : Nat) (acc : List Tok) (u : Nat), s.length ≤ f1 → s.length ≤ f2 →
    lexGo f1 s acc u = lexGo f2 s acc u := by
  intro f1 f2 acc u h1 h2
  fun_induction lexGo f1 s acc u generalizing f2 with
  | case1 => simp [lexGo]
  | case2 => simp at h1
  | case3 g1 c cs acc u e hs =>
    obtain ⟨g2, rfl⟩ : ∃ g, f2 = g + 1 := ⟨f2 - 1, by simp at h2; omega⟩
    simp [lexGo, hs]
  | case4 g1 c cs acc u rest t b hs ih =>
    obtain ⟨g2, rfl⟩ : ∃ g, f2 = g + 1 := ⟨f2 - 1, by simp at h2; omega⟩
    have hp := lexStep_progress c cs rest t b hs
    simp only [List.length_cons] at h1 h2
    simp only [lexGo, hs]
    exact ih g2 (by omega) (by omega)

theorem lex_total (src : Bytes) (extra : Nat) :
    lexGo ((src.takeWhile (· != 0)).length + extra) (src.takeWhile (· != 0)) [] 0 = lex src :=
  lexGo_fuel _ _ _ _ _ (by omega) (Nat.le_refl _)

theorem lexGo_toks {f : Nat} {s : Bytes} {acc : List Tok} {u : Nat} {o : LexOut} (h : lexGo f s acc u = .ok o) :
    ∃ ts, o.toks = acc.reverse ++ ts ++ [⟨.T_EOF, []⟩] ∧ ts.length ≤ s.length := by
  fun_induction lexGo f s acc u with
  | case1 | case2 => cases h; exact ⟨[], by simp, by simp⟩
  | case3 => cases h
  | case4 g c cs acc u rest t b hs ih =>
    obtain ⟨ts, h1, h2⟩ := ih h
    have hp := lexStep_progress c cs rest t b hs
    cases t with
    | none => exact ⟨ts, h1, by simp; omega⟩
    | some t => exact ⟨t :: ts, by simpa using h1, by simp; omega⟩

theorem lex_token_bound (src : Bytes) (o : LexOut) (h : lex src = .ok o) : o.toks.length ≤ src.length + 1 := by
  obtain ⟨ts, h1, h2⟩ := lexGo_toks h
  have := (List.takeWhile_sublist (· != 0) (l := src)).length_le
  simp [h1]; omega

theorem lex_ends_eof (src : Bytes) (o : LexOut) (h : lex src = .ok o) : o.toks.getLast? = some ⟨.T_EOF, []⟩ := by
  obtain ⟨ts, h1, _⟩ := lexGo_toks h
  rw [h1, List.getLast?_concat]

theorem expr_depth_guard (fuel d : Nat) (ts : List Tok) (h : maxRecursionDepth ≤ d) :
    parseExpr (fuel + 1) d ts = .error .tooDeep := by
  have : d + 1 > maxRecursionDepth := by omega
  simp [parseExpr, this]

theorem block_depth_guard (fuel d : Nat) (ts : List Tok) (h : maxRecursionDepth ≤ d) :
    parseBlock (fuel + 1) d ts = .error .tooDeep := by
  have : d + 1 > maxRecursionDepth := by omega
  simp [parseBlock, this]

/-- non-vacuity: a two-byte input, an unterminated string, a NUL in the middle -/
example : (lex [97, 43]).toOption.map (·.toks.length) = some 3 := by decide
example : (lex [34, 97]).toOption.map (·.toks.length) = none := by decide
example : (lex [97, 0, 98]).toOption.map (·.toks.length) = some 2 := by decide

end NanoVerif.C09
