/-
C02 — every execution engine implements the defined semantics.

`Model/Sem.lean` is the reference: an executable transcription of docs/SPECIFICATION.md sections 4–8 for the
modelled fragment, independent of every engine.  Proved here:
  * the reference has the properties the specification prescribes (short-circuit and/or, strict left-to-right
    evaluation of operands and arguments, the first fault stops, `wrap64_range`), so that it is an honest
    transcription rather than a third opinion;
  * `vm_arith_handler`, `arith_agree`: the NanoVM handler of ADD SUB MUL DIV MOD (the `binArith` that the lock-step
    runs tie to vm.c) leaves `vmIntOp`, which for *all* pairs of 64-bit operands is the reference's result — the
    "exhaustively for all boundary operand pairs" clause, for every pair; `neg_agree_sem`, `cmp_agree`: negation,
    equality and signed order of 64-bit integers are those of the integers they denote (tied to the handlers of NEG
    and of the comparisons in `Lemmas/CompileExpr.lean`);
  * the reference assigns one outcome to a program: a decided run does not depend on the fuel (`outcome_stable`,
    `outcome_unique`, `expr_stable`, `stmts_stable`).
Whole programs are compared engine by engine with the reference by the correspondence run (nano_virt --run, nanoc
binaries vs the `sem` command).
-/
import NanoVerif.Model.Sem
import NanoVerif.Lemmas.VmCore
import NanoVerif.Lemmas.SemCfg

namespace NanoVerif.C02
open NanoVerif Gen

theorem wrap64_eq_bmod (z : Int) : Sem.wrap64 z = z.bmod (2 ^ 64) := by
  have h1 : ((2 ^ 64 : Nat) : Int) = 18446744073709551616 := by decide
  unfold Sem.wrap64 Int.bmod
  simp only [h1]
  split <;> split <;> omega

theorem add_agree (x y : BitVec 64) : (x + y).toInt = Sem.wrap64 (x.toInt + y.toInt) := by
  rw [wrap64_eq_bmod, BitVec.toInt_add]

theorem sub_agree (x y : BitVec 64) : (x - y).toInt = Sem.wrap64 (x.toInt - y.toInt) := by
  rw [wrap64_eq_bmod, BitVec.toInt_sub]

theorem mul_agree (x y : BitVec 64) : (x * y).toInt = Sem.wrap64 (x.toInt * y.toInt) := by
  rw [wrap64_eq_bmod, BitVec.toInt_mul]

theorem neg_agree_sem (x : I64) : Sem.wrap64 (-(x.toInt)) = (-x).toInt := by
  rw [wrap64_eq_bmod, BitVec.toInt_neg]

theorem div_agree (x y : BitVec 64) : (x.sdiv y).toInt = Sem.wrap64 (Int.tdiv x.toInt y.toInt) := by
  rw [wrap64_eq_bmod, BitVec.toInt_sdiv]

theorem wrap64_id (z : Int) (h1 : -9223372036854775808 ≤ z) (h2 : z < 9223372036854775808) : Sem.wrap64 z = z := by
  rw [wrap64_eq_bmod]
  exact Int.bmod_eq_of_le (by omega) (by omega)

theorem mod_agree (x y : BitVec 64) : (x.srem y).toInt = Sem.wrap64 (Int.tmod x.toInt y.toInt) := by
  rw [BitVec.toInt_srem]
  -- |x tmod y| ≤ |x| with the sign of x, so the remainder is in range and `wrap64` leaves it as it is
  have hlo := BitVec.le_toInt x
  have hhi := BitVec.toInt_lt (x := x)
  have hn : (Int.tmod x.toInt y.toInt).natAbs ≤ x.toInt.natAbs := Int.natAbs_tmod .. ▸ Nat.mod_le ..
  symm; apply wrap64_id
  · omega
  · by_cases h0 : 0 ≤ x.toInt
    · omega
    · have h1 : Int.tmod x.toInt y.toInt ≤ 0 := by
        have := Int.tmod_nonneg (a := -x.toInt) y.toInt (by omega)
        rw [Int.neg_tmod] at this
        omega
      omega

/-- the integer the VM's arithmetic handler leaves on the stack (last alternative: `MOD`) -/
def vmIntOp (op : Opc) (x y : I64) : I64 :=
  match op with
  | .ADD => x + y
  | .SUB => x - y
  | .MUL => x * y
  | .DIV => if y == 0 then 0 else x.sdiv y
  | _ => if y == 0 then 0 else x.srem y

theorem vm_arith_handler (s : Core) (op : Opc) (hop : op = .ADD ∨ op = .SUB ∨ op = .MUL ∨ op = .DIV ∨ op = .MOD) (x y : I64) :
    NanoVerif.binArith ((s.push (.int x)).push (.int y)) op = cont (s.push (.int (vmIntOp op x y))) := by
  unfold NanoVerif.binArith
  simp only [pop_push]
  rcases hop with rfl | rfl | rfl | rfl | rfl <;> simp [coerceEnum, vmIntOp]

/-- last alternative: `MOD` -/
def semOp : Opc → TT
  | .ADD => .T_PLUS
  | .SUB => .T_MINUS
  | .MUL => .T_STAR
  | .DIV => .T_SLASH
  | _ => .T_PERCENT

/-- `==`, `slt`, `sle`: what `val_compare` computes on two ints -/
theorem cmp_agree (x y : I64) :
    (x == y) = (x.toInt == y.toInt) ∧ (x.slt y) = decide (x.toInt < y.toInt) ∧ (x.sle y) = decide (x.toInt ≤ y.toInt) := by
  exact ⟨Bool.eq_iff_iff.mpr (by rw [beq_iff_eq, beq_iff_eq]; exact BitVec.toInt_inj.symm),
    BitVec.slt_eq_decide, BitVec.sle_eq_decide⟩

theorem toInt_beq_zero (y : I64) : (y.toInt == 0) = (y == 0) :=
  (cmp_agree y 0).1.symm

/-- wrapping, truncating division, x/0 = x%0 = 0 on the VM -/
theorem arith_agree (op : Opc) (hop : op = .ADD ∨ op = .SUB ∨ op = .MUL ∨ op = .DIV ∨ op = .MOD) (x y : I64) :
    Sem.binArith Sem.vmCfg (semOp op) (.int x.toInt) (.int y.toInt) = .ok (.int (vmIntOp op x y).toInt) := by
  rcases hop with rfl | rfl | rfl | rfl | rfl <;> simp only [semOp, vmIntOp, Sem.binArith, toInt_beq_zero]
  · rw [add_agree]
  · rw [sub_agree]
  · rw [mul_agree]
  · split
    · rfl
    · rw [div_agree]
  · split
    · rfl
    · rw [mod_agree]

theorem wrap64_range (z : Int) : -9223372036854775808 ≤ Sem.wrap64 z ∧ Sem.wrap64 z < 9223372036854775808 := by
  rw [wrap64_eq_bmod]
  have h1 := Int.le_bmod (x := z) (m := 2 ^ 64) (by decide)
  have h2 := Int.bmod_lt (x := z) (m := 2 ^ 64) (by decide)
  omega

/-! ### spec laws (SPECIFICATION.md 4.6, 4.9) -/

/-- the right operand is not evaluated: its effects do not happen -/
theorem and_short (cfg : Sem.Cfg) (p : Program) (fuel : Nat) (loc : Sem.Locals) (g g1 : Sem.GState) (a b : Expr)
    (h : Sem.evalExpr cfg p fuel loc g a = .ok (.bool false, g1)) :
    Sem.evalExpr cfg p (fuel + 1) loc g (.prefixOp .T_AND [a, b]) = .ok (.bool false, g1) := by
  simp [Sem.evalExpr, h]

theorem or_short (cfg : Sem.Cfg) (p : Program) (fuel : Nat) (loc : Sem.Locals) (g g1 : Sem.GState) (a b : Expr)
    (h : Sem.evalExpr cfg p fuel loc g a = .ok (.bool true, g1)) :
    Sem.evalExpr cfg p (fuel + 1) loc g (.prefixOp .T_OR [a, b]) = .ok (.bool true, g1) := by
  simp [Sem.evalExpr, h]

theorem and_right (cfg : Sem.Cfg) (p : Program) (fuel : Nat) (loc : Sem.Locals) (g g1 g2 : Sem.GState) (a b : Expr) (vb : Bool)
    (h : Sem.evalExpr cfg p fuel loc g a = .ok (.bool true, g1))
    (hb : Sem.evalExpr cfg p fuel loc g1 b = .ok (.bool vb, g2)) :
    Sem.evalExpr cfg p (fuel + 1) loc g (.prefixOp .T_AND [a, b]) = .ok (.bool vb, g2) := by
  simp [Sem.evalExpr, h, hb]

/-- the second operand is evaluated in the state left by the first -/
theorem operands_left_to_right (cfg : Sem.Cfg) (p : Program) (fuel : Nat) (loc : Sem.Locals) (g g1 g2 : Sem.GState)
    (a b : Expr) (va vb v : Sem.SVal) (op : TT) (hop : op ≠ .T_AND ∧ op ≠ .T_OR)
    (ha : Sem.evalExpr cfg p fuel loc g a = .ok (va, g1)) (hb : Sem.evalExpr cfg p fuel loc g1 b = .ok (vb, g2))
    (hv : Sem.binArith cfg op va vb = .ok v) :
    Sem.evalExpr cfg p (fuel + 1) loc g (.prefixOp op [a, b]) = .ok (v, g2) := by
  simp [Sem.evalExpr, ha, hb, hv, hop.1, hop.2]

theorem first_operand_fault_stops (cfg : Sem.Cfg) (p : Program) (fuel : Nat) (loc : Sem.Locals) (g : Sem.GState)
    (a b : Expr) (er : Sem.Fault × Sem.GState) (op : TT)
    (ha : Sem.evalExpr cfg p fuel loc g a = .error er) :
    Sem.evalExpr cfg p (fuel + 1) loc g (.prefixOp op [a, b]) = .error er := by
  simp [Sem.evalExpr, ha]

theorem args_left_to_right (cfg : Sem.Cfg) (p : Program) (fuel : Nat) (loc : Sem.Locals) (g g1 g2 : Sem.GState)
    (a : Expr) (r : List Expr) (v : Sem.SVal) (vs : List Sem.SVal)
    (ha : Sem.evalExpr cfg p fuel loc g a = .ok (v, g1)) (hr : Sem.evalArgs cfg p fuel loc g1 r = .ok (vs, g2)) :
    Sem.evalArgs cfg p (fuel + 1) loc g (a :: r) = .ok (v :: vs, g2) := by
  simp [Sem.evalArgs, ha, hr]

theorem first_argument_fault_stops (cfg : Sem.Cfg) (p : Program) (fuel : Nat) (loc : Sem.Locals) (g : Sem.GState)
    (a : Expr) (r : List Expr) (er : Sem.Fault × Sem.GState) (ha : Sem.evalExpr cfg p fuel loc g a = .error er) :
    Sem.evalArgs cfg p (fuel + 1) loc g (a :: r) = .error er := by
  simp [Sem.evalArgs, ha]

/-- non-vacuity: `(and false (println 1))` prints nothing -/
example : Sem.evalExpr Sem.vmCfg [] 5 [] {} (.prefixOp .T_AND [.bool false, .call "println" [.num 1]]) = .ok (.bool false, {}) := by
  simp [Sem.evalExpr]

/-! ### the reference defines one outcome per program
"The defined semantics" is a function of the program only if the bound used to compute it does not matter. -/

theorem outcome_stable (c : Sem.Cfg) (p : Program) (fuel : Nat)
    (h : (Sem.runProgram c p fuel).res ≠ .fault .fuel) (k : Nat) :
    Sem.runProgram c p (fuel + k) = Sem.runProgram c p fuel :=
  Sem.runProgram_fuel_mono p c fuel h k

theorem outcome_unique (c : Sem.Cfg) (p : Program) (n m : Nat)
    (hn : (Sem.runProgram c p n).res ≠ .fault .fuel) (hm : (Sem.runProgram c p m).res ≠ .fault .fuel) :
    Sem.runProgram c p n = Sem.runProgram c p m := by
  have h1 := outcome_stable c p n hn m
  have h2 := outcome_stable c p m hm n
  rw [← h1, Nat.add_comm n m, h2]

theorem expr_stable (c : Sem.Cfg) (p : Program) (fuel : Nat) (loc : Sem.Locals) (g : Sem.GState) (e : Expr)
    (r : Sem.SVal × Sem.GState) (h : Sem.evalExpr c p fuel loc g e = .ok r) :
    Sem.evalExpr c p (fuel + 1) loc g e = .ok r :=
  ((Sem.fuelAll p c fuel).expr loc g e).ok h

theorem stmts_stable (c : Sem.Cfg) (p : Program) (fuel : Nat) (loc : Sem.Locals) (g : Sem.GState) (ss : List Stmt)
    (r : Sem.Flow × Sem.Locals × Sem.GState) (h : Sem.execStmts c p fuel loc g ss = .ok r) :
    Sem.execStmts c p (fuel + 1) loc g ss = .ok r :=
  ((Sem.fuelAll p c fuel).stmts loc g ss).ok h

end NanoVerif.C02
