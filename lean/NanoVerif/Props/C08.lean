/-
C08 — out-of-range operations stop the program and never yield a value (property theorems and the lemmas that serve them alone).
The VM statements are about the same `execData` that the lock-step correspondence ties to vm.c.
-/
import NanoVerif.Lemmas.VmCore
namespace NanoVerif.C08
open Gen (Opc)

/-- outcome of an indexed access on one engine -/
inductive Access
  | value (k : Nat)     -- the element at position k
  | stop                -- run-time error, non-zero exit, nothing after the access is observed
deriving DecidableEq, Repr

/-- the range test every engine must make on the *64-bit* index -/
def inRange (idx : I64) (len : Nat) : Prop := 0 ≤ idx.toInt ∧ idx.toInt < (len : Int)

instance (idx : I64) (len : Nat) : Decidable (inRange idx len) := by unfold inRange; infer_instance

/-- NanoVM: `OP_ARR_GET` / `OP_ARR_SET` / `OP_ARR_REMOVE` (vm.c, after the range check on the int64) -/
def vmAccess (len : Nat) (idx : I64) : Access := if idxInRange idx len then .value idx.toNat else .stop
/-- native runtime: `assert(index >= 0 && index < arr->length)` in dyn_array_get_* / set_* / remove_at -/
def nativeAccess (len : Nat) (idx : I64) : Access := if 0 ≤ idx.toInt ∧ idx.toInt < (len : Int) then .value idx.toNat else .stop
/-- interpreter: `if (index < 0 || index >= len) { ...; exit(1); }` in builtin_at / builtin_array_set -/
def interpAccess (len : Nat) (idx : I64) : Access := if idx.toInt < 0 ∨ idx.toInt ≥ (len : Int) then .stop else .value idx.toNat

theorem idxInRange_iff (idx : I64) (len : Nat) : idxInRange idx len = true ↔ inRange idx len := by
  unfold idxInRange inRange; simp

theorem idxInRange_eq_false {idx : I64} {len : Nat} (h : ¬ inRange idx len) : idxInRange idx len = false :=
  Bool.eq_false_iff.mpr fun hb => h ((idxInRange_iff idx len).mp hb)

/-- On every engine, for every length and every 64-bit index: a value is produced only for an
    index in [0, len), and it is the element at exactly that index; everything else stops. -/
theorem oob_stops (len : Nat) (idx : I64) :
    (inRange idx len → vmAccess len idx = .value idx.toNat ∧ nativeAccess len idx = .value idx.toNat ∧ interpAccess len idx = .value idx.toNat) ∧
    (¬ inRange idx len → vmAccess len idx = .stop ∧ nativeAccess len idx = .stop ∧ interpAccess len idx = .stop) := by
  unfold vmAccess nativeAccess interpAccess
  constructor
  · intro h
    have hi : ¬ (idx.toInt < 0 ∨ idx.toInt ≥ (len : Int)) := by unfold inRange at h; omega
    exact ⟨by rw [(idxInRange_iff idx len).mpr h]; rfl, if_pos h, if_neg hi⟩
  · intro h
    have hi : idx.toInt < 0 ∨ idx.toInt ≥ (len : Int) := by unfold inRange at h; omega
    exact ⟨by rw [idxInRange_eq_false h]; rfl, if_neg h, if_pos hi⟩

/-- an index of 2^32 + k is out of range for every array shorter than 2^32 (narrowing the index
    to 32 bits before the test would make it read element k) -/
theorem wide_index_rejected (len k : Nat) (hl : len < 4294967296) (hk : k < 4294967296) :
    vmAccess len (BitVec.ofNat 64 (4294967296 + k)) = .stop := by
  have : (BitVec.ofNat 64 (4294967296 + k)).toInt = 4294967296 + k := by
    rw [BitVec.toInt_eq_toNat_cond, BitVec.toNat_ofNat, Nat.mod_eq_of_lt (by omega), if_pos (by omega)]
    rfl
  exact (oob_stops len _).2 (by unfold inRange; omega) |>.1

theorem negative_index_rejected (len : Nat) (idx : I64) (h : idx.toInt < 0) : vmAccess len idx = .stop :=
  (oob_stops len idx).2 (by unfold inRange; omega) |>.1

theorem arr_get_eq (m : Module) (fr : Frame) (c : Core) (a et : Nat) (es : List Val) (iv : Val) (st : Nat)
    (hobj : c.heap.obj? a = some (.arr et es)) :
    execData m fr ((c.push (.arr a)).push iv) st .ARR_GET [] = some
      (if idxInRange (asIdx iv) es.length then
        cont (((c.retain (es.getD (asIdx iv).toNat .void)).release (.arr a)).push (es.getD (asIdx iv).toNat .void))
      else errS (c.release (.arr a)) .outOfBounds) := by
  rw [execData_data rfl]
  dsimp only [execData']
  simp only [pop_push, hobj]

/-- `OP_ARR_GET` on the model the lock-step run compares with vm.c: with an array of `es.length`
    elements and any 64-bit index on the stack, an out-of-range index raises VM_ERR_OUT_OF_BOUNDS
    (the run stops, no output is added), an in-range index pushes exactly that element. -/
theorem vm_arr_get (m : Module) (fr : Frame) (c : Core) (a et : Nat) (es : List Val) (idx : I64) (st : Nat)
    (hobj : c.heap.obj? a = some (.arr et es)) :
    (inRange idx es.length →
      ∃ c', execData m fr ((c.push (.arr a)).push (.int idx)) st .ARR_GET [] = some (c', .running) ∧
        c'.stack.getLast? = some (es.getD idx.toNat .void) ∧ c'.out = c.out) ∧
    (¬ inRange idx es.length →
      ∃ c', execData m fr ((c.push (.arr a)).push (.int idx)) st .ARR_GET [] = some (c', .err .outOfBounds) ∧ c'.out = c.out) := by
  rw [arr_get_eq m fr c a et es _ st hobj]
  constructor
  · intro h
    rw [asIdx, if_pos ((idxInRange_iff idx es.length).mpr h)]
    exact ⟨_, rfl, by simp [Core.push], rfl⟩
  · intro h
    rw [asIdx, if_neg (by rw [idxInRange_eq_false h]; simp)]
    exact ⟨_, rfl, rfl⟩

/-- the same when the index on the stack is an enum value (the type checker accepts `(at a Color.Blue)`): its
    number is the index, and an out-of-range one stops the run -/
theorem vm_arr_get_enum_oob (m : Module) (fr : Frame) (c : Core) (a et : Nat) (es : List Val) (v : Nat) (st : Nat)
    (hobj : c.heap.obj? a = some (.arr et es)) (h : ¬ inRange (i64 v) es.length) :
    ∃ c', execData m fr ((c.push (.arr a)).push (.enum v)) st .ARR_GET [] = some (c', .err .outOfBounds) ∧ c'.out = c.out := by
  rw [arr_get_eq m fr c a et es _ st hobj, asIdx, if_neg (by rw [idxInRange_eq_false h]; simp)]
  exact ⟨_, rfl, rfl⟩

/-- `OP_ARR_SET` on the model: an index outside [0, length) raises VM_ERR_OUT_OF_BOUNDS, nothing is stored
    (the operands are released), nothing is pushed, nothing is printed - for every length, every 64-bit
    index and every value -/
theorem vm_arr_set_oob (m : Module) (fr : Frame) (c : Core) (a et : Nat) (es : List Val) (idx : I64) (v : Val) (st : Nat)
    (hobj : c.heap.obj? a = some (.arr et es)) (h : ¬ inRange idx es.length) :
    ∃ c', execData m fr (((c.push (.arr a)).push (.int idx)).push v) st .ARR_SET [] = some (c', .err .outOfBounds) ∧
      c'.stack = c.stack ∧ c'.out = c.out ∧ c'.heap = (c.heap.release1 (.arr a)).release1 v := by
  refine ⟨(c.release (.arr a)).release v, ?_, rfl, rfl, rfl⟩
  rw [execData_data rfl]
  dsimp only [execData']
  simp only [pop_push, hobj, asIdx, idxInRange_eq_false h, Bool.false_eq_true, if_false, errS]

/-- `OP_ARR_REMOVE` out of range: error, array untouched apart from the release of the operand -/
theorem vm_arr_remove_oob (m : Module) (fr : Frame) (c : Core) (a et : Nat) (es : List Val) (idx : I64) (st : Nat)
    (hobj : c.heap.obj? a = some (.arr et es)) (h : ¬ inRange idx es.length) :
    ∃ c', execData m fr ((c.push (.arr a)).push (.int idx)) st .ARR_REMOVE [] = some (c', .err .outOfBounds) ∧
      c'.stack = c.stack ∧ c'.out = c.out ∧ c'.heap = c.heap.release1 (.arr a) := by
  refine ⟨c.release (.arr a), ?_, rfl, rfl, rfl⟩
  rw [execData_data rfl]
  dsimp only [execData']
  simp only [pop_push, hobj, asIdx, idxInRange_eq_false h, Bool.false_eq_true, if_false, errS]

/-- `OP_ARR_POP` on an empty array: error, no value is produced -/
theorem vm_arr_pop_empty (m : Module) (fr : Frame) (c : Core) (a et : Nat) (st : Nat)
    (hobj : c.heap.obj? a = some (.arr et [])) :
    ∃ c', execData m fr (c.push (.arr a)) st .ARR_POP [] = some (c', .err .outOfBounds) ∧ c'.stack = c.stack ∧ c'.out = c.out := by
  refine ⟨c.release (.arr a), ?_, rfl, rfl⟩
  rw [execData_data rfl]
  dsimp only [execData']
  simp only [pop_push, hobj, List.getLast?_nil, errS]

/-- field `k` of a struct, union or tuple with `fs.length ≤ k`: error, no value is produced -/
theorem vm_field_oob (m : Module) (fr : Frame) (c : Core) (a : Nat) (fs : List Val) (k : Nat) (st : Nat) (hk : k ≥ fs.length) :
    (∀ d, c.heap.obj? a = some (.struct d fs) →
      ∃ c', execData m fr (c.push (.struct a)) st .STRUCT_GET [k] = some (c', .err .outOfBounds) ∧ c'.stack = c.stack ∧ c'.out = c.out) ∧
    (∀ d vr, c.heap.obj? a = some (.union d vr fs) →
      ∃ c', execData m fr (c.push (.union a)) st .UNION_FIELD [k] = some (c', .err .outOfBounds) ∧ c'.stack = c.stack ∧ c'.out = c.out) ∧
    (c.heap.obj? a = some (.tuple fs) →
      ∃ c', execData m fr (c.push (.tuple a)) st .TUPLE_GET [k] = some (c', .err .outOfBounds) ∧ c'.stack = c.stack ∧ c'.out = c.out) := by
  refine ⟨fun d hobj => ⟨c.release (.struct a), ?_, rfl, rfl⟩, fun d vr hobj => ⟨c.release (.union a), ?_, rfl, rfl⟩,
    fun hobj => ⟨c.release (.tuple a), ?_, rfl, rfl⟩⟩
  all_goals
    rw [execData_data rfl]
    dsimp only [execData']
    simp only [pop_push, hobj, List.getD_cons_zero, hk, if_true, errS]


example : inRange (BitVec.ofNat 64 2) 3 := by decide
example : ¬ inRange (BitVec.ofInt 64 (-1)) 3 := by decide
example : vmAccess 3 (BitVec.ofNat 64 4294967297) = .stop := by decide
example : vmAccess 3 (BitVec.ofInt 64 (-9223372036854775808)) = .stop := by decide

end NanoVerif.C08
