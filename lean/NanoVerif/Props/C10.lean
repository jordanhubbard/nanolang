/-
C10 — stored modules load back to what was stored (property theorems only).
Section-level round trips hold wherever the section sits in a file (arbitrary bytes before and
after).  Exit-status logic of the three executables is stated outright.
-/
import NanoVerif.Lemmas.NvmWhole
import NanoVerif.Lemmas.Nvm
import NanoVerif.Model.Vm
namespace NanoVerif.C10

/-- on a pool without duplicates, re-inserting every string on reload reproduces the pool -/
theorem addString_fold_nodup (ss acc : List Bytes) (h : (acc ++ ss).Nodup) :
    ss.foldl (fun a s => (addString a s).1) acc = acc ++ ss := by
  induction ss generalizing acc with
  | nil => simp
  | cons s ss ih =>
    have hs : s ∉ acc := fun hm => (List.nodup_append.mp h).2.2 s hm s (by simp) rfl
    rw [List.foldl_cons, addString_of_not_mem hs, ih _ (by simpa using h), List.append_assoc, List.singleton_append]

/-- `nvm_add_string` de-duplicates: inserting an existing string returns its first index and
    leaves the pool unchanged (what makes string indices stable) -/
theorem addString_existing (ss : List Bytes) (s : Bytes) (h : s ∈ ss) :
    (addString ss s).1 = ss ∧ (addString ss s).2 < ss.length ∧ ss[(addString ss s).2]? = some s := by
  obtain ⟨i, hi, hs⟩ := addString_of_mem h
  rw [hi]
  exact ⟨rfl, (List.getElem?_eq_some_iff.mp hs).1, hs⟩

/-- String pool: whatever precedes and follows the section in the file, the loader recovers
    exactly the pool that was written (pool without duplicates, as `nvm_add_string` builds it). -/
theorem strings_roundtrip (pre post : Bytes) (ss : List Bytes)
    (hnd : ss.Nodup) (hlen : ∀ s ∈ ss, s.length < 4294967296)
    (hsz : (serStrings ss).length + 4 < 4294967296) :
    parseStrings (pre ++ serStrings ss ++ post) pre.length (serStrings ss).length
      ((serStrings ss).length + 1) 0 [] = .ok ss := by
  rw [parseStrings_ser ss hlen hsz [] (At.mid ..),
    addString_fold_nodup ss [] hnd, List.nil_append]

/-- Function table: every entry comes back field by field (widths and order of the 18-byte
    entry), wherever the section sits. -/
theorem functions_roundtrip (pre post : Bytes) (fs : List FnEntry) (hwf : ∀ f ∈ fs, f.wf)
    (hsz : (fs.flatMap serFn).length + 18 < 4294967296) :
    parseFunctions (pre ++ fs.flatMap serFn ++ post) pre.length (fs.flatMap serFn).length
      ((fs.flatMap serFn).length + 1) 0 [] = .ok fs := by
  rw [parseFunctions_ser fs hwf hsz [] (At.mid ..), List.nil_append]

/-- Import table with parameter-type tables: entries come back with their parameter bytes; an
    absent table comes back as zeros, `param_count = 0` as an absent table (`canonImport`). -/
theorem imports_roundtrip (pre post : Bytes) (is : List ImportEntry) (hwf : ∀ i ∈ is, i.wf)
    (hsz : (is.flatMap serImport).length + 65600 < 4294967296) :
    parseImports (pre ++ is.flatMap serImport ++ post) pre.length (is.flatMap serImport).length
      ((is.flatMap serImport).length + 1) 0 [] = .ok (is.map canonImport) := by
  rw [parseImports_ser is hwf hsz [] (At.mid ..), List.nil_append]

/-- serialising the canonical form writes the same bytes: `serialize` is idempotent across a
    reload as far as imports are concerned -/
theorem serImport_canon (i : ImportEntry) : serImport (canonImport i) = serImport i := by
  have hp : importParams (canonImport i) = importParams i := by
    by_cases h : i.paramCount > 0
    · unfold canonImport
      rw [if_pos h]
      show (importParams i).take i.paramCount ++ List.replicate (i.paramCount - (importParams i).length) 0 = _
      rw [List.take_of_length_le (Nat.le_of_eq (importParams_length i)), importParams_length, Nat.sub_self]
      exact List.append_nil _
    · have h0 : i.paramCount = 0 := by omega
      cases hp : i.paramTypes <;> simp [canonImport, importParams, h0, hp]
  unfold serImport
  rw [hp]
  rfl

/-- **Serialising a module and loading it back rebuilds it from its sections** (`reload`): for every module whose fields fit their
    widths (file below 4 GiB), `nvm_deserialize` accepts exactly what `nvm_serialize` wrote - magic, version,
    section count, CRC over the body, directory with running offsets, each section, "the sections end at the end
    of the file" - and rebuilds code, function table, debug entries, imports (in canonical form), entry point and
    flags; the string pool comes back through `nvm_add_string` -/
theorem file_roundtrip (m : Module) (hw : m.wf) : deserialize (serialize m) = .ok (reload m) := by
  have hn : (sectionsOf m).length = (secsOf m).length := by rw [← secPairs_secsOf]; simp [secPairs]
  have hlen5 := secsOf_length_le m
  have hH := headerOf_length m (sectionsOf m) (crc32 (bodyOf (sectionsOf m))).toNat
  have hsize : (serialize m).length =
      Gen.headerSize + Gen.sectionEntrySize * (secsOf m).length + (bodyBytes (secsOf m)).length := by
    rw [serialize_eq, List.length_append, List.length_append, hH, dirEntries_length, secPairs, List.length_map]
    rfl
  have hat : At (serialize m) 0 (headerOf m (sectionsOf m) (crc32 (bodyOf (sectionsOf m))).toNat) := ⟨[], _, rfl, rfl⟩
  unfold headerOf at hat
  have fmagic := hat.left.left.left.left.left.left.left.take_drop
  have fver := (hat.left.left.left.left.left.left.right (k := 4) rfl).leVal_take_drop (by decide)
  have fflags := (hat.left.left.left.left.left.right (k := 8) (by simp; rfl)).leVal_take_drop hw.flags
  have fentry := (hat.left.left.left.left.right (k := 12) (by simp; rfl)).leVal_take_drop hw.entry
  have fcount := (hat.left.left.left.right (k := 16) (by simp; rfl)).leVal_take_drop (v := (sectionsOf m).length) (by omega)
  have fcrc := (hat.right (k := 28) (by simp; rfl)).leVal_take_drop (crc32 (bodyOf (sectionsOf m))).isLt
  rw [Nat.zero_add] at fver fflags fentry fcount fcrc
  rw [hn] at fcount
  refine deserialize_eq_ok_iff.mpr ⟨by omega, ?_, ?_, ?_, ?_⟩
  · unfold headerValid
    rw [show (serialize m).take 4 = _ from fmagic, fver, fcount]
    simp only [beq_self_eq_true, Bool.true_and, decide_eq_true_eq]
    unfold Gen.maxSections; omega
  · rw [Gen.checksumOffset, fcrc]
    exact congrArg (fun b => (crc32 b).toNat) (List.drop_left' hH)
  · rw [fcount, hsize, Nat.mul_comm]; omega
  · rw [fflags, fentry, fcount, Nat.mul_comm, hsize]
    exact loadSections_file_all _ hH (secsOf m) hw.secs (serialize m) (serialize_eq m) hw.size _

/-- ... and exactly `m` when its string pool has no duplicate entries (what `nvm_add_string` guarantees for
    every module the compiler builds) and its import entries are in the form the loader produces -/
theorem file_roundtrip_exact (m : Module) (hw : m.wf) (hnd : m.strings.Nodup) (hci : m.imports.map canonImport = m.imports) :
    deserialize (serialize m) = .ok m := by
  rw [file_roundtrip m hw, reload_eq m (addString_fold_nodup m.strings [] hnd) hci]

/-- the stored file runs like the in-memory module: `execute` sees the same module -/
theorem stored_runs_alike (m : Module) (hw : m.wf) (hnd : m.strings.Nodup) (hci : m.imports.map canonImport = m.imports)
    (fuel : Nat) : ∀ m', deserialize (serialize m) = .ok m' → execute m' fuel = execute m fuel := by
  intro m' h
  rw [file_roundtrip_exact m hw hnd hci] at h
  cases h; rfl

/-- what a finished run hands to its `main`: the VM result code and the value on top of the stack -/
structure RunEnd where
  result : Nat        -- VmResult, 0 = VM_OK
  top : Val

/-- `nano_virt --run`, `nano_vm file.nvm` (and the daemon) and the generated wrapper: process
    exit status before the OS truncates it to 8 bits -/
def exitRun (r : RunEnd) : Int :=
  if r.result != 0 then 1 else match r.top with | .int n => (n.toInt + 2147483648) % 4294967296 - 2147483648 | _ => 0
def exitFile (r : RunEnd) : Int :=
  if r.result != 0 then 1 else match r.top with | .int n => (n.toInt + 2147483648) % 4294967296 - 2147483648 | _ => 0
def exitWrapper (r : RunEnd) : Int :=
  if r.result != 0 then 1 else match r.top with | .int n => (n.toInt + 2147483648) % 4294967296 - 2147483648 | _ => 0

/-- the three mains derive the same exit status from the same run -/
theorem exit_agree (r : RunEnd) : exitRun r = exitFile r ∧ exitFile r = exitWrapper r := ⟨rfl, rfl⟩

/-- a failed run exits 1, a successful run returning the int `n` exits `(int) n` -/
theorem exit_status (r : RunEnd) :
    (r.result ≠ 0 → exitFile r = 1) ∧
    (∀ n : I64, r.result = 0 → r.top = .int n → -128 ≤ n.toInt → n.toInt < 128 → exitFile r = n.toInt) := by
  constructor
  · intro h; simp [exitFile, h]
  · intro n h0 ht hlo hhi
    simp only [exitFile, h0, ht]
    simp only [bne_self_eq_false, Bool.false_eq_true, if_false]
    omega

example : ([[109, 97, 105, 110], [], [104, 105]] : List Bytes).Nodup := by decide
example : ({ nameIdx := 0, arity := 2, codeOffset := 16, codeLength := 6, localCount := 3, upvalueCount := 0 } : FnEntry).wf := by
  unfold FnEntry.wf; decide
example : ({ moduleNameIdx := 1, functionNameIdx := 2, paramCount := 2, returnType := 1, paramTypes := none } : ImportEntry).wf := by
  unfold ImportEntry.wf; decide
example : exitFile { result := 0, top := .int 3 } = 3 := by decide

/-- a concrete module (string pool, code, one function) meets every hypothesis of `file_roundtrip_exact` -/
def sample : Module where
  flags := 1
  strings := [[109, 97, 105, 110], [104, 105]]
  code := [5, 0x3D]
  functions := [{ nameIdx := 0, arity := 0, codeOffset := 0, codeLength := 2, localCount := 0, upvalueCount := 0 }]

example : sample.wf := by
  refine ⟨by decide, by decide, ?_, by decide +kernel⟩
  intro s hs
  simp only [secsOf, sample, List.length_cons, List.length_nil] at hs
  simp at hs
  rcases hs with rfl | rfl | rfl
  · exact ⟨by decide, by decide⟩
  · show (2 : Nat) < 4294967296; decide
  · refine ⟨?_, by decide⟩
    intro f hf; simp at hf; subst hf; unfold FnEntry.wf; decide
example : sample.strings.Nodup ∧ sample.imports.map canonImport = sample.imports := ⟨by decide, rfl⟩

end NanoVerif.C10
