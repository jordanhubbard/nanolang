/-
C01 — native (C-transpiled) and NanoVM back ends are observationally equivalent.

What is modelled: the NanoVM back end end to end — lexer, parser and bytecode generator
(`Model/{Lexer,Parser,Compile}.lean`, tied byte for byte to `nano_virt --emit-nvm`) and the VM
(`Model/Vm.lean`, tied in lock step to vm.c) — and the reference semantics `Sem` in its two
configurations.  The native back end (transpiler + C compiler + C runtime) is *not* modelled as code: it
is represented by `Sem nativeCfg` and tied to it by the correspondence run (C02), and compared directly
with the VM on every generated program by this property's own oracle.

Theorems here (each docstring says what is claimed):
  * on generated code: `compile_expr_correct` and `compile_expr_correct_native` (the pure expression fragment:
    integer and boolean literals, local and global variables, unary minus and `not`, the eleven strict binary
    operators, short-circuit `and` / `or`, any nesting), `compile_stmt_correct`, `compile_body_correct`
    (statements over scalars and `let` at the level of the function body, *including the bytes written to
    standard output*), `compile_main_correct` (whole programs `fn main() { body }`, through `compileProgram` -
    the model of `codegen_compile` - and `execute` - the model of `vm_execute`);
  * on the reference alone: `cfg_agree_arith`, `divZero_only_from_zero_divisor`, `vm_never_divZero` (a zero
    divisor is the one documented point where the engines may differ: total on the VM, a fault natively),
    `native_ok_implies_vm`, and for whole programs with every construct `reference_cfgs_agree`,
    `reference_fuel_stable`, `decided_outcomes_agree`.
-/
import NanoVerif.Model.Sem
import NanoVerif.Model.Compile
import NanoVerif.Lemmas.CompileExpr
import NanoVerif.Lemmas.CompileExprExample
import NanoVerif.Lemmas.CompileStmt
import NanoVerif.Lemmas.CompileStmtExample
import NanoVerif.Lemmas.CompileMain
import NanoVerif.Lemmas.CompileMainExample
import NanoVerif.Lemmas.SemCfg

namespace NanoVerif.C01
open NanoVerif Gen

/-- The native and the VM configuration of the reference agree on every binary operator application
    whose native outcome is not the division-by-zero fault. -/
theorem cfg_agree_arith (op : TT) (a b : Sem.SVal) (h : Sem.binArith Sem.nativeCfg op a b ≠ .error .divZero) :
    Sem.binArith Sem.vmCfg op a b = Sem.binArith Sem.nativeCfg op a b :=
  ((Sem.binArith_ag op a b).resolve_right h).symm

/-- … and the division-by-zero fault arises only from `/` or `%` with a zero divisor. -/
theorem divZero_only_from_zero_divisor (op : TT) (a b : Sem.SVal) (h : Sem.binArith Sem.nativeCfg op a b = .error .divZero) :
    (op = .T_SLASH ∨ op = .T_PERCENT) ∧ b = .int 0 := by
  rcases Sem.binArith_cases Sem.nativeCfg op a b with ⟨hop, x, -, hb⟩ | ⟨-, he⟩
  · exact ⟨hop, hb⟩
  · cases he _ h

/-- on the VM configuration no operator application faults with division by zero -/
theorem vm_never_divZero (op : TT) (a b : Sem.SVal) : Sem.binArith Sem.vmCfg op a b ≠ .error .divZero := by
  intro h
  rcases Sem.binArith_cases Sem.vmCfg op a b with ⟨hop, x, rfl, rfl⟩ | ⟨-, he⟩
  · cases (Sem.binArith_zero _ hop x).symm.trans h
  · cases he _ h

example : Sem.binArith Sem.nativeCfg .T_SLASH (.int 7) (.int 0) = .error .divZero := rfl
example : Sem.binArith Sem.vmCfg .T_SLASH (.int 7) (.int 0) = .ok (.int 0) := rfl

/-- **compile_expr_correct** (VM back end, pure expression fragment).  Let `e` be an expression of the
    fragment, `code` what `compile_expr` emits for it and `bs` its encoding, lying at the instruction pointer
    inside the current function of any module `m`; let the reference semantics evaluate `e` to `w` in an
    environment the machine state represents (`EnvOK`: each visible variable is a scalar stored in the slot
    the generator resolves its name to).  Then the VM's dispatch loop, started in that state, reaches after
    finitely many instructions the state that differs only by the instruction pointer having moved past the
    code and one more stack entry, the representation of `w`; heap, output, globals and frames are unchanged,
    and the reference's state is unchanged too.  No bound on the size or nesting of `e`. -/
theorem compile_expr_correct (m : Module) (ce : CE) (p : Program) (e : Expr) (hp : PureE e)
    (cs cs' : CS) (code : List PI) (bs : Bytes) (fuel : Nat) (loc : Sem.Locals) (g g' : Sem.GState) (w : Sem.SVal)
    (s : VmState) (fr : Frame) (frs : List Frame)
    (hc : cExpr ce cs e = .ok (cs', code)) (hb : encodeAll code = some bs)
    (hs : Sem.evalExpr Sem.vmCfg p fuel loc g e = .ok (w, g'))
    (hfr : s.frames = fr :: frs) (hat : CodeAt m s.curFn s.ip bs)
    (henv : EnvOK ce cs loc g fr.stackBase s.stack s.globals) :
    g' = g ∧ ∃ v n, VRel w v ∧
      ∀ k, runLoop m (n + k) s = runLoop m k (advS s (s.ip + bs.length) (s.stack ++ [v])) := by
  obtain ⟨hg, v, hv, hrun⟩ := cExpr_sim m ce p e hp cs cs' code fuel loc g g' w s fr frs hc hs hfr ⟨bs, hb, hat⟩ henv
  obtain ⟨n, hn⟩ := hrun.loop
  exact ⟨hg, v, n, hv, encodeAll_length code bs hb ▸ hn⟩

/-- whatever the native configuration of the reference computes, the VM configuration computes too (they differ
    only where the native one faults on a zero divisor).  The proof holds for every expression, not only those
    of the fragment: `hp` is not used. -/
theorem native_ok_implies_vm (p : Program) (e : Expr) (hp : PureE e) :
    ∀ (fuel : Nat) (loc : Sem.Locals) (g : Sem.GState) (r : Sem.SVal × Sem.GState),
      Sem.evalExpr Sem.nativeCfg p fuel loc g e = .ok r → Sem.evalExpr Sem.vmCfg p fuel loc g e = .ok r :=
  fun fuel loc g _ h => ((Sem.agAll p fuel).expr loc g e).ok h

/-- **both back ends, model level**: if the reference in its *native* configuration evaluates an expression
    of the fragment to `w`, then the VM running the generated code pushes the representation of `w` -/
theorem compile_expr_correct_native (m : Module) (ce : CE) (p : Program) (e : Expr) (hp : PureE e)
    (cs cs' : CS) (code : List PI) (bs : Bytes) (fuel : Nat) (loc : Sem.Locals) (g g' : Sem.GState) (w : Sem.SVal)
    (s : VmState) (fr : Frame) (frs : List Frame)
    (hc : cExpr ce cs e = .ok (cs', code)) (hb : encodeAll code = some bs)
    (hs : Sem.evalExpr Sem.nativeCfg p fuel loc g e = .ok (w, g'))
    (hfr : s.frames = fr :: frs) (hat : CodeAt m s.curFn s.ip bs)
    (henv : EnvOK ce cs loc g fr.stackBase s.stack s.globals) :
    g' = g ∧ ∃ v n, VRel w v ∧
      ∀ k, runLoop m (n + k) s = runLoop m k (advS s (s.ip + bs.length) (s.stack ++ [v])) :=
  compile_expr_correct m ce p e hp cs cs' code bs fuel loc g g' w s fr frs hc hb
    (native_ok_implies_vm p e hp fuel loc g (w, g') hs) hfr hat henv

open CompileEx in
/-- non-vacuity: the hypotheses hold for a concrete module, machine state and environment, and the theorem
    yields the run of the VM on `(and (< 1 x) (== (* x 3) 15))` with x = 5 -/
example : ∃ v n, VRel (.bool true) v ∧ ∀ k, runLoop exM (n + k) exS = runLoop exM k (advS exS 49 ([.int 5] ++ [v])) :=
  (compile_expr_correct_native exM {} [] exE
    (.and _ _ (.strict .T_LT .LT _ _ rfl (.num 1) (.ident "x")) (.strict .T_EQ .EQ _ _ rfl (.strict .T_STAR .MUL _ _ rfl (.ident "x") (.num 3)) (.num 15)))
    exCs exCs exCode exBytes 10 exLoc {} {} (.bool true) exS _ [] exCompile exEncode exSem rfl exAt exEnv).2

/-- **compile_stmt_correct** (VM back end, statement fragment `StmtF`: `set` of a local, `print`/`println`,
    `assert`, expression statements, `if`/`else`, `while`, blocks - without declarations, `break`, `continue`,
    `return`; expressions of the pure fragment).  If the reference executes the statement from a state the machine state represents (`StInv`:
    empty operand stack, every visible local a reference variable stored in its slot, same output so far, no
    global variables), then the reference falls through and the VM's dispatch loop, running the generated bytes,
    reaches their end in a state that represents the reference's new state: same variables with the new
    values, and exactly the same bytes written to standard output.  Loops run any number of iterations. -/
theorem compile_stmt_correct (m : Module) (ce : CE) (p : Program) (L : Nat) (st : Stmt) (hf : StmtF st)
    (cs cs' : CS) (code : List PI) (d fuel : Nat) (loc loc' : Sem.Locals) (g g' : Sem.GState) (fl : Sem.Flow)
    (s : VmState) (fr : Frame) (frs : List Frame) (bs : Bytes)
    (hc : cStmt ce cs d st = .ok (cs', code)) (hb : encodeAll code = some bs)
    (hs : Sem.execStmt Sem.vmCfg p fuel loc g st = .ok (fl, loc', g'))
    (hfr : s.frames = fr :: frs) (hat : CodeAt m s.curFn s.ip bs) (hinv : StInv ce cs loc g fr L s) :
    fl = .next ∧ ∃ n s', (∀ k, runLoop m (n + k) s = runLoop m k s') ∧ s'.ip = s.ip + bs.length ∧
      s'.frames = s.frames ∧ s'.curFn = s.curFn ∧ s'.out = g'.out ∧ StInv ce cs loc' g' fr L s' := by
  obtain ⟨h1, _, tr⟩ := stmtF_sim m ce p L st hf cs cs' code d fuel loc loc' g g' fl fr hc hs
  exact ⟨h1, tr.run hb hfr hat hinv⟩

/-- **compile_body_correct**: the same for a function body - declarations `let x = e` and statements of the
    fragment in any order - given that the frame has a slot for every declared variable -/
theorem compile_body_correct (m : Module) (ce : CE) (p : Program) (L : Nat) (ss : List Stmt) (hbf : BodyF ss)
    (cs cs' : CS) (code : List PI) (d fuel : Nat) (loc loc' : Sem.Locals) (g g' : Sem.GState) (fl : Sem.Flow)
    (s : VmState) (fr : Frame) (frs : List Frame) (bs : Bytes)
    (hc : cStmts ce cs d ss = .ok (cs', code)) (hb : encodeAll code = some bs)
    (hs : Sem.execStmts Sem.vmCfg p fuel loc g ss = .ok (fl, loc', g'))
    (hfr : s.frames = fr :: frs) (hat : CodeAt m s.curFn s.ip bs) (hinv : StInv ce cs loc g fr L s)
    (hL : cs'.locals.length ≤ L) (h32 : fr.stackBase + L < 4294967296) :
    fl = .next ∧ ∃ n s', (∀ k, runLoop m (n + k) s = runLoop m k s') ∧ s'.ip = s.ip + bs.length ∧
      s'.frames = s.frames ∧ s'.curFn = s.curFn ∧ s'.out = g'.out ∧ StInv ce cs' loc' g' fr L s' := by
  obtain ⟨h1, tr⟩ := body_sim m ce p L ss hbf cs cs' code d fuel loc loc' g g' fl fr hc hs hL h32
  exact ⟨h1, tr.run hb hfr hat hinv⟩

open CompileEx2 in
/-- non-vacuity: `let mut x = 5; while (< x 7) { set x (+ x 1) }; (println x)` - the hypotheses hold for a
    concrete module and entry state, and the theorem yields a VM run that ends after the 55 bytes of code
    having written "7\n" -/
example : ∃ n s', (∀ k, runLoop CompileEx2.m (n + k) s0 = runLoop CompileEx2.m k s') ∧ s'.ip = 55 ∧ s'.out = [55, 10] := by
  obtain ⟨_, n, s', h1, h2, _, _, h5, _⟩ := compile_body_correct CompileEx2.m {} [] 1 body bodyF
    {} cs1 CompileEx2.code 0 20 [] _ {} _ _ s0 _ [] bytes compiles encodes runs rfl at0 inv0 (by decide) (by decide)
  exact ⟨n, s', h1, h2, h5⟩

/-- **compile_main_correct** (whole program, VM back end).  Let the program be `fn main() { body }` where
    `body` is made of `let` declarations and statements of the fragment and ends with `return e`; let
    `compileProgram` produce the module `m` (below 2 GiB of code).  If the reference semantics runs the
    program to a normal exit with output `out` and status `code`, then `execute m` - module flags, `__init__`
    look-up, `vm_call_function`'s frame set-up, the dispatch loop decoding the generated bytes, `OP_RET` in the
    outermost frame - ends with `VM_OK` for every sufficiently large instruction budget, has written exactly
    `out`, and leaves on the stack the single value from which the drivers derive the exit status: an
    integer congruent to `code` modulo 256, or a boolean with `code = 0`. -/
theorem compile_main_correct (rt : Ty) (body : List Stmt) (hb : BodyR body) (m : Module)
    (hc : compileProgram [.fn "main" [] rt body] = .ok m) (hsmall : m.code.length < 2147483648)
    (fuel : Nat) (out : Bytes) (code : Nat)
    (hs : Sem.runProgram Sem.vmCfg [.fn "main" [] rt body] (fuel + 2) = ⟨out, .exit code⟩) :
    ∃ n sf v, (∀ k, execute m (n + 1 + k) = (sf, .done)) ∧ sf.out = out ∧ sf.stack = [v] ∧
      ((∃ x : I64, v = .int x ∧ code = (x.toInt % 256).toNat) ∨ (∃ b : Bool, v = .bool b ∧ code = 0)) := by
  rcases runProgram_main rt body fuel _ hs with ⟨f, g, _, ho⟩ | ⟨fl, loc, g, hex, ho⟩
  · simp at ho
  · obtain ⟨w, v, n, sf, rfl, hv, hrun, hout, hstk⟩ := main_program_sim rt body hb m hc hsmall (fuel + 1) fl loc g hex
    simp only [Sem.Obs.mk.injEq] at ho
    obtain ⟨ho1, ho2⟩ := ho
    refine ⟨n, sf, v, hrun, by rw [hout, ho1], hstk, ?_⟩
    cases hv with
    | int x => left; exact ⟨x, rfl, by simpa using ho2⟩
    | bool b => right; exact ⟨b, rfl, by simpa using ho2⟩

/-- non-vacuity of `compile_main_correct`: `fn main() -> int { let mut x: int = 5  while (< x 7) { set x (+ x 1) }
    (println x)  return x }` - `compileProgram` succeeds, the reference exits with status 7 after writing "7\n",
    and the theorem yields that `execute` on the compiled module ends normally with that output and `7` on the stack -/
example : ∃ n sf v, (∀ k, execute CompileEx3.m (n + 1 + k) = (sf, .done)) ∧ sf.out = [55, 10] ∧ sf.stack = [v] ∧
      ((∃ x : I64, v = .int x ∧ 7 = (x.toInt % 256).toNat) ∨ (∃ b : Bool, v = .bool b ∧ 7 = 0)) :=
  compile_main_correct .int CompileEx3.body CompileEx3.bodyR
    CompileEx3.m CompileEx3.compileProgram_ok (by decide) 20 [55, 10] 7 CompileEx3.runs

/-! ### the reference semantics itself: configurations and fuel (every construct the model has)

The theorems above relate generated code to the reference on a fragment.  The three below are about the
reference as a whole - calls and recursion, globals, arrays, structs, `for`, `break`, `continue`, `return`,
builtins - and make the layering of C01 explicit: each engine is tied to its configuration of the
reference (by the theorems above where they reach, by correspondence elsewhere); the two configurations
themselves agree, for every program and every fuel, unless the native one stops at a zero divisor
(the "undefined partial operation" the property excludes); and an outcome, once decided, is the outcome
for every larger fuel, so "the" outcome of a program does not depend on the bound used to compute it. -/

/-- **reference_cfgs_agree**: for every program and every fuel, the native and the VM configuration of the
    reference produce the same output and the same result, unless the native run ends in the
    division-by-zero fault. -/
theorem reference_cfgs_agree (p : Program) (fuel : Nat)
    (h : (Sem.runProgram Sem.nativeCfg p fuel).res ≠ .fault .divZero) :
    Sem.runProgram Sem.nativeCfg p fuel = Sem.runProgram Sem.vmCfg p fuel :=
  Sem.runProgram_ag p fuel h

/-- **reference_fuel_stable**: an observation other than "not decided by this much fuel" is the observation
    for every larger fuel (either configuration). -/
theorem reference_fuel_stable (c : Sem.Cfg) (p : Program) (fuel : Nat)
    (h : (Sem.runProgram c p fuel).res ≠ .fault .fuel) (k : Nat) :
    Sem.runProgram c p (fuel + k) = Sem.runProgram c p fuel :=
  Sem.runProgram_fuel_mono p c fuel h k

/-- **decided_outcomes_agree**: if the native configuration decides a program with some fuel and the VM
    configuration decides it with some other fuel, and the native outcome is not the division fault, the
    two observations are equal. -/
theorem decided_outcomes_agree (p : Program) (n m : Nat)
    (hn : (Sem.runProgram Sem.nativeCfg p n).res ≠ .fault .fuel)
    (hd : (Sem.runProgram Sem.nativeCfg p n).res ≠ .fault .divZero)
    (hm : (Sem.runProgram Sem.vmCfg p m).res ≠ .fault .fuel) :
    Sem.runProgram Sem.nativeCfg p n = Sem.runProgram Sem.vmCfg p m := by
  have h := reference_cfgs_agree p n hd
  exact h.trans (C02.outcome_unique Sem.vmCfg p n m (h ▸ hn) hm)

/-- non-vacuity: the example program is decided by the native configuration with fuel 22 (exit 7), so the
    three theorems apply to it -/
theorem CompileEx3_runs_native : Sem.runProgram Sem.nativeCfg CompileEx3.prog (20 + 2) = ⟨[55, 10], .exit 7⟩ := by
  with_unfolding_all rfl

example : Sem.runProgram Sem.nativeCfg CompileEx3.prog 22 = Sem.runProgram Sem.vmCfg CompileEx3.prog 40 :=
  decided_outcomes_agree CompileEx3.prog 22 40 (by rw [CompileEx3_runs_native]; decide)
    (by rw [CompileEx3_runs_native]; decide)
    (by rw [show (40 : Nat) = 22 + 18 from rfl, reference_fuel_stable Sem.vmCfg CompileEx3.prog 22 (by rw [CompileEx3.runs]; decide) 18,
            CompileEx3.runs]; decide)

/-- … and the exclusion is needed: with a zero divisor the two configurations do differ -/
example : Sem.runProgram Sem.nativeCfg [.fn "main" [] .int [.ret (some (.prefixOp .T_SLASH [.num 7, .num 0]))]] 5
            = ⟨[], .fault .divZero⟩ ∧
          Sem.runProgram Sem.vmCfg [.fn "main" [] .int [.ret (some (.prefixOp .T_SLASH [.num 7, .num 0]))]] 5
            = ⟨[], .exit 0⟩ := by
  constructor <;> with_unfolding_all rfl

end NanoVerif.C01
