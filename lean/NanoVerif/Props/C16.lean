/-
C16 — a failing FFI co-process is contained by the VM (property theorems only; protocol level).
The peer is an arbitrary byte stream per reply; the OS behaviour for a write to a reader-less
pipe is a parameter.  Real process behaviour (waitpid, SIGTERM escalation, orphans) is observed
by the scripted-peer runs, not modelled.
-/
import NanoVerif.Model.CopClient
namespace NanoVerif.C16

/-- Containment: with SIGPIPE ignored, whatever the co-process sends (or fails to send) in reply
    to every request, and wherever it stops reading, the run ends with exit status 0 or 1 —
    never by a signal — and status 0 only if every call was answered with a decodable value. -/
theorem contained (os : Os) (h : os.sigpipeIgnored = true) (calls : List (Bool × Bytes)) (done : Nat) :
    ∃ code n, runCalls os calls done = .exit code n ∧ (code = 0 ∨ code = 1) ∧ done ≤ n ∧
      (code = 0 → n = done + calls.length) := by
  induction calls generalizing done with
  | nil => exact ⟨0, done, rfl, Or.inl rfl, Nat.le_refl _, by simp⟩
  | cons c rest ih =>
    obtain ⟨gone, reply⟩ := c
    simp only [runCalls, oneCall, osWrite, h]
    cases gone with
    | true => exact ⟨1, done, by simp, Or.inr rfl, Nat.le_refl _, by simp⟩
    | false =>
      simp only [Bool.not_false, if_true]
      cases hr : processReply reply with
      | ok v =>
        obtain ⟨code, n, h1, h2, h3, h4⟩ := ih (done + 1)
        refine ⟨code, n, h1, h2, by omega, ?_⟩
        intro hc; have := h4 hc; simp; omega
      | failKeep w | failStop w => exact ⟨1, done, rfl, Or.inr rfl, Nat.le_refl _, by simp⟩

/-- … and the hypothesis is necessary: with the default SIGPIPE disposition a peer that stopped
    reading kills the VM on the next request (the defect repaired in nano_vm) -/
theorem killed_without_sigign (os : Os) (h : os.sigpipeIgnored = false) (reply : Bytes) (rest : List (Bool × Bytes)) :
    runCalls os ((true, reply) :: rest) 0 = .signal "SIGPIPE" := by
  simp [runCalls, oneCall, osWrite, h]

/-- A reply is accepted as a value only when it is a well-formed FFI_RESULT: right version,
    announced length within COP_MAX_PAYLOAD and fully delivered, decodable payload.  Everything
    else — short header, wrong version, oversized or truncated payload, wrong type, garbage — is
    a reported call failure. -/
theorem reply_ok_iff (inp : Bytes) (v : CVal) :
    (∃ w, processReply inp = .ok w) ↔
      ∃ len rest, recvHeader inp = some (msgFfiResult, len, rest) ∧
        (len = 0 ∨ (len ≠ 0 ∧ len ≤ rest.length ∧ (copDe 65 (rest.take len)).isSome)) := by
  let _ := v   -- the frozen statement binds `v` without using it
  unfold processReply
  constructor
  · -- down the tests of `processReply`: every leaf but two is a failure
    intro ⟨w, h⟩
    split at h
    · cases h
    rename_i ty len rest hh
    split at h
    case isFalse => split at h <;> cases h
    rename_i hty
    cases (show ty = msgFfiResult by simpa using hty)
    refine ⟨len, rest, hh, ?_⟩
    split at h
    · rename_i h0; exact .inl (by simpa using h0)
    rename_i h0
    split at h
    · cases h
    rename_i hl
    split at h
    · cases h
    · rename_i v' n hd
      exact .inr ⟨by simpa using h0, by omega, by simp [hd]⟩
  · intro ⟨len, rest, hh, hcase⟩
    rw [hh]
    simp only [beq_self_eq_true, if_true]
    rcases hcase with h0 | ⟨h0, hl, hd⟩
    · simp [h0]
    · have : (len == 0) = false := by simpa using h0
      simp only [this, Bool.false_eq_true, if_false]
      rw [if_neg (by omega)]
      cases hdd : copDe 65 (rest.take len) with
      | none => simp [hdd] at hd
      | some r => obtain ⟨v', n⟩ := r; exact ⟨v', rfl⟩

/-- the announced payload length is bounded before anything is allocated or read -/
theorem payload_bounded (inp : Bytes) (ty len : Nat) (rest : Bytes) (h : recvHeader inp = some (ty, len, rest)) :
    len ≤ copMaxPayload ∧ rest = inp.drop copHeaderSize := by
  simp only [recvHeader, Option.ite_none_left_eq_some, Option.some.injEq, Prod.mk.injEq] at h
  obtain ⟨-, -, hl, -, rfl, rfl⟩ := h
  exact ⟨Nat.not_lt.mp hl, rfl⟩

example : runCalls { sigpipeIgnored := true } [(false, [1, 0x10, 0, 0, 9, 0, 0, 0, 1, 5, 0, 0, 0, 0, 0, 0, 0]), (false, [1, 0x10, 0, 0])] 0
    = .exit 1 1 := by decide +kernel
example : (match processReply [1, 0x10, 0, 0, 9, 0, 0, 0, 1, 5, 0, 0, 0, 0, 0, 0, 0] with | .ok (.int 5) => true | _ => false) = true := by
  decide +kernel

end NanoVerif.C16
