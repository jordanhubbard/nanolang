/-
C19 — compilation is a function of the source (property theorems and the two fold lemmas under
them; what a proof about the model can say of this property).  The model functions are pure by
construction; the lemmas below carry the mechanisms the implementation relies on for
order-independence: the string pool is the order-preserving de-duplication of the insertion
sequence and indices never move, and the serialised length is a function of the section sizes.
-/
import NanoVerif.Lemmas.NvmSer
namespace NanoVerif.C19

/-- the pool after inserting a sequence of strings one by one -/
def poolOf (xs : List Bytes) : List Bytes := xs.foldl (fun a s => (addString a s).1) []

/-- inserting more strings never moves an index that was already handed out -/
theorem index_stable (ss : List Bytes) (s : Bytes) (i : Nat) (h : i < ss.length) :
    (addString ss s).1[i]? = ss[i]? := by
  rw [addString_fst]
  split
  · rfl
  · exact List.getElem?_append_left h

/-- the index returned for a string always denotes that string in the resulting pool -/
theorem index_correct (ss : List Bytes) (s : Bytes) : (addString ss s).1[(addString ss s).2]? = some s := by
  by_cases h : s ∈ ss
  · obtain ⟨i, hi, hs⟩ := addString_of_mem h
    rw [hi]; exact hs
  · rw [addString_of_not_mem h]; simp

/-- not `C10.addString_fold_nodup`, which is the case where every insertion appends -/
theorem addString_fold_keeps_nodup (xs acc : List Bytes) (h : acc.Nodup) :
    (xs.foldl (fun a s => (addString a s).1) acc).Nodup := by
  induction xs generalizing acc with
  | nil => exact h
  | cons x xs ih =>
    refine ih _ ?_
    show (addString acc x).1.Nodup
    rw [addString_fst]
    split
    · exact h
    · exact List.nodup_append.mpr ⟨h, by simp, fun a ha b hb e => by simp_all⟩

theorem addString_fold_mem (xs acc : List Bytes) (s : Bytes) :
    s ∈ xs.foldl (fun a s => (addString a s).1) acc ↔ s ∈ acc ∨ s ∈ xs := by
  induction xs generalizing acc with
  | nil => simp
  | cons x xs ih =>
    rw [List.foldl_cons, ih, addString_fst]
    split
    · constructor
      · rintro (h | h)
        · exact .inl h
        · exact .inr (List.mem_cons_of_mem _ h)
      · rintro (h | h)
        · exact .inl h
        · rcases List.mem_cons.mp h with rfl | h
          · exact .inl ‹_›
          · exact .inr h
    · simp [or_assoc]

/-- the pool never contains a string twice, whatever sequence (with whatever repetitions) was inserted -/
theorem pool_nodup (xs : List Bytes) : (poolOf xs).Nodup :=
  addString_fold_keeps_nodup xs [] .nil

/-- every inserted string is in the pool and nothing else is: the pool is determined by the
    insertion sequence alone (no dependence on addresses or hash order) -/
theorem pool_mem (xs : List Bytes) (s : Bytes) : s ∈ poolOf xs ↔ s ∈ xs := by
  simpa [poolOf] using addString_fold_mem xs [] s

/-- the serialised size is a function of the section sizes only -/
theorem serialize_length (m : Module) :
    (serialize m).length = Gen.headerSize + Gen.sectionEntrySize * (sectionsOf m).length
      + ((sectionsOf m).map (·.2.length)).sum := by
  unfold serialize bodyOf
  rw [List.length_append, List.length_append, headerOf_length, dirEntries_length, List.length_flatMap,
    Gen.sectionEntrySize, Nat.add_assoc]

example : poolOf [[1], [2], [1], [3], [2]] = [[1], [2], [3]] := by decide
example : (addString [[1], [2]] [1]).2 = 0 := by decide

end NanoVerif.C19
