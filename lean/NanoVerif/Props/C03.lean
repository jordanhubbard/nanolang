/-
C03 — compile-time shadow-test evaluation agrees with the compiled program.

The compile-time evaluator (src/eval.c) is a third engine.  It is not modelled instruction by instruction;
what is modelled is the one mechanism in which it differs by design from compiled code and from the
specification (section 8.1): it keeps a single symbol stack shared by all active calls, so a name that is
free in a callee is looked up through the callers' locals before the globals (dynamic scoping), while
compiled code resolves it statically.  `scope_agree`: the two look-ups coincide when the name is bound in the
callee itself or in no caller — for every stack of caller frames, every set of globals and every name (sufficient,
not necessary: a caller's binding that equals the global one is harmless too); `scope_differs` exhibits a
disagreement where the condition fails (finding F-C03-1).  Everything else about the evaluator is tied by correspondence: the text
the shadow blocks print under `nanoc --verbose` must equal the reference semantics' output and the compiled
binary's output for the same calls, and every assertion whose value the reference computed must pass.
-/
import NanoVerif.Model.Sem

namespace NanoVerif.C03
open NanoVerif NanoVerif.Sem

/-- what the evaluator does: the callee's own bindings, then every caller's (innermost first), then globals -/
def dynLookup (own callers globals : Locals) (x : String) : Option SVal :=
  match lookup? (own ++ callers) x with
  | some v => some v
  | none => lookup? globals x

/-- what compiled code and the specification do: own bindings, then globals -/
def staticLookup (own globals : Locals) (x : String) : Option SVal :=
  match lookup? own x with
  | some v => some v
  | none => lookup? globals x

theorem lookup_append (a b : Locals) (x : String) :
    lookup? (a ++ b) x = (match lookup? a x with | some v => some v | none => lookup? b x) := by
  unfold lookup?
  rw [List.find?_append]
  cases List.find? (fun e => e.fst == x) a <;> rfl

theorem scope_agree (own callers globals : Locals) (x : String)
    (h : lookup? own x ≠ none ∨ lookup? callers x = none) :
    dynLookup own callers globals x = staticLookup own globals x := by
  unfold dynLookup staticLookup
  rw [lookup_append]
  cases ho : lookup? own x with
  | some v => rfl
  | none =>
    rcases h with h | h
    · exact absurd ho h
    · simp [h]

/-- a name free in the callee and bound by a caller to another value than the global (F-C03-1) -/
theorem scope_differs :
    dynLookup [] [("x", .int 2)] [("x", .int 1)] "x" = some (.int 2) ∧
    staticLookup [] [("x", .int 1)] "x" = some (.int 1) :=
  ⟨rfl, rfl⟩

/-- a program in which no local or parameter shares its name with a global, and every name used in a function is
    bound in it or global, never meets the difference -/
theorem distinct_names_agree (own callers globals : Locals) (x : String)
    (hdistinct : ∀ y, lookup? callers y ≠ none → lookup? globals y = none)
    (hbound : lookup? own x ≠ none ∨ lookup? globals x ≠ none) :
    dynLookup own callers globals x = staticLookup own globals x := by
  apply scope_agree
  rcases hbound with h | h
  · exact .inl h
  · right
    cases hc : lookup? callers x with
    | none => rfl
    | some v => exact absurd (hdistinct x (by simp [hc])) h

end NanoVerif.C03
