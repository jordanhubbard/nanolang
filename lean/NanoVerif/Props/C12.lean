/-
C12 — a damaged bytecode file is refused (property theorems only).
CRC polynomial / init / final xor, header size, checksum offset, magic, version and the
section limit are `NanoVerif.Gen.*`, regenerated from nvm_format.{c,h} on every run.
-/
import NanoVerif.Lemmas.Nvm
import NanoVerif.Lemmas.Crc
namespace NanoVerif.C12

/-- An error pattern (same length as the damaged region) whose set bits span at most 32
    consecutive bit positions of the bit stream, anywhere, crossing byte boundaries freely:
    `k` clean bits, a 1, at most 31 arbitrary bits, `j` clean bits. A single flipped bit is
    the case `rest = []`. -/
def IsBurst (e : Bytes) : Prop :=
  ∃ (k j : Nat) (rest : List Bool), rest.length ≤ 31 ∧
    bitsOf e = List.replicate k false ++ (true :: rest) ++ List.replicate j false

/-- CRC-32 as computed by `nvm_crc32` (table-driven, polynomial from the source) detects every
    burst of at most 32 bits in every message. -/
theorem crc_burst (b e : Bytes) (hl : b.length = e.length) (hb : IsBurst e) :
    crc32 (xorBytes b e) ≠ crc32 b := by
  obtain ⟨k, j, rest, hr, he⟩ := hb
  intro heq
  rw [crc32_xor b e hl] at heq
  have h0 : crcRaw 0#32 e = 0#32 := by
    rw [← BitVec.xor_right_inj (crc32 b), heq, BitVec.xor_zero]
  rw [crcRaw_eq_feedBits, he] at h0
  exact burst_syndrome_ne_zero k j rest hr h0

/-- Any file the loader accepts is refused once a burst of ≤ 32 bits (in particular one flipped
    bit) damages any part of it after the header. -/
theorem load_rejects_burst (f e : Bytes) (m : Module) (hacc : deserialize f = .ok m)
    (hl : e.length = (f.drop Gen.headerSize).length) (hb : IsBurst e) :
    deserialize (f.take Gen.headerSize ++ xorBytes (f.drop Gen.headerSize) e) = .error .reject := by
  have acc := deserialize_eq_ok_iff.mp hacc
  have hp := List.length_take_of_le acc.size
  have hf : HeaderOk (f.take Gen.headerSize ++ f.drop Gen.headerSize) := by
    rw [List.take_append_drop]; exact acc.headerOk
  -- the damaged file keeps the header, so its checksum field is the one `f` was accepted with
  exact deserialize_of_not_headerOk fun hh => crc_burst _ e hl.symm hb
    (BitVec.eq_of_toNat_eq ((hh.crc_append hp).trans (hf.crc_append hp).symm))

/-- Any accepted file is refused once anything is appended to it (even a tail chosen to keep
    the CRC unchanged): the sections must end exactly at the end of the file. -/
theorem load_rejects_extension (f t : Bytes) (m : Module) (hacc : deserialize f = .ok m)
    (ht : t ≠ []) : deserialize (f ++ t) = .error .reject := by
  have acc := deserialize_eq_ok_iff.mp hacc
  by_cases hh : HeaderOk (f ++ t)
  · rw [deserialize_of_headerOk hh, header_field_append f t (k := 8) (by decide) acc.size,
      header_field_append f t (k := 12) (by decide) acc.size, header_field_append f t (k := 16) (by decide) acc.size,
      loadSections_append f t _ _ _ _ _ acc.sections]
    exact if_pos (by simpa using ht)
  · exact deserialize_of_not_headerOk hh

/-- Any accepted file is refused when cut short at any length (0 … |f|−1). -/
theorem load_rejects_truncation (f : Bytes) (m : Module) (hacc : deserialize f = .ok m)
    (n : Nat) (hn : n < f.length) : ∀ m', deserialize (f.take n) ≠ .ok m' := by
  intro m' h
  have := load_rejects_extension (f.take n) (f.drop n) m' h
    fun h0 => absurd (List.drop_eq_nil_iff.mp h0) (by omega)
  rw [List.take_append_drop, hacc] at this
  cases this

/-- wrong magic, wrong version or too many sections: refused before anything else is read -/
theorem load_rejects_bad_header (f : Bytes) (h : headerValid f = false) :
    deserialize f = .error .reject :=
  deserialize_of_not_headerOk fun hh => by simp [hh.header] at h

/-- all-or-nothing: the loader returns a complete module or an error - by the type of the model (`Except`) -/
theorem load_all_or_nothing (f : Bytes) :
    (∃ m, deserialize f = .ok m) ∨ (∃ e, deserialize f = .error e) := by
  cases h : deserialize f with
  | ok m => exact Or.inl ⟨m, rfl⟩
  | error e => exact Or.inr ⟨e, rfl⟩

/-- a 32-bit burst starting at bit 3 of a 6-byte pattern -/
example : IsBurst [0xF8, 0xFF, 0xFF, 0xFF, 0x07, 0x00] :=
  ⟨3, 13, List.replicate 31 true, by decide, by decide⟩
/-- a single flipped bit -/
example : IsBurst [0x00, 0x10] := ⟨12, 3, [], by decide, by decide⟩
def tinyModule : Module where
  flags := 1
  strings := [[109, 97, 105, 110]]
  code := [5, 0x3D]
  functions := [{ nameIdx := 0, arity := 0, codeOffset := 0, codeLength := 2, localCount := 0, upvalueCount := 0 }]

/-- a real (tiny) module is accepted, so the hypotheses of the load theorems are satisfiable -/
theorem tiny_accepted : ∃ m, deserialize (serialize tinyModule) = .ok m := by
  have key : (match deserialize (serialize tinyModule) with | .ok _ => true | _ => false) = true := by
    decide +kernel
  generalize deserialize (serialize tinyModule) = r at key
  cases r with
  | ok m => exact ⟨m, rfl⟩
  | error e => cases key

end NanoVerif.C12
