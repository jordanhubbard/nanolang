/-
C04 — accepted programs never get stuck on any backend.

Proved here (Lean 4, over the specification checker `Tc` and the reference semantics `Sem`):
`tc_sound_expr` — type soundness of the operator fragment: an expression built from literals, variables
and the unary and binary operators that the checker accepts at type τ, evaluated in any environment
that agrees with the checker's scope, NEVER ends in a type error or an undefined-variable error, for any
fuel: it yields a value of type τ, or runs out of fuel, or (native configuration) stops at a division by
zero — the documented faults.  With C02's `arith_agree` this carries over to the VM's handlers, and with
`nonvoid_returns_all` (C05) every accepted non-void function returns on every path.

`tc_sound_all` / `tc_sound_body` / `never_stuck` — type soundness of the while-language over that fragment:
declarations, assignment to locals and globals, `if`, `while`, `break`, `continue`, `return`, printing, `assert`,
expression statements, nested blocks with their scoping.

Not proved: calls, `for`, arrays, structs (soundness of the whole checker), the two code generators and
the C compiler's acceptance of the generated C.  "Agrees" / "mirrors" (`EnvOk`, `Agree`, `GA`) asks a value of the
recorded type for every binding, and `HasTy` has int, bool and string only: with a float, array or struct parameter
or global in scope the theorems say nothing, even about a body that never uses it.  For those the check is a search on the implementation:
accepted programs through both pipelines, with the outcome classes of the property as the oracle.
-/
import NanoVerif.Model.Sem
import NanoVerif.Lemmas.TcInv

namespace NanoVerif.C04
open NanoVerif NanoVerif.Tc NanoVerif.Sem Gen

/-- run-time values of a static type -/
inductive HasTy : SVal → Ty → Prop
  | int (i : Int) : HasTy (.int i) .int
  | bool (b : Bool) : HasTy (.bool b) .bool
  | str (s : Bytes) : HasTy (.str s) .string

/-- the operator fragment -/
inductive Pure : Expr → Prop
  | num (v : Int) : Pure (.num v)
  | bool (b : Bool) : Pure (.bool b)
  | str (s : Bytes) : Pure (.str s)
  | ident (x : String) : Pure (.ident x)
  | un (op : TT) (a : Expr) : Pure a → Pure (.prefixOp op [a])
  | bin (op : TT) (a b : Expr) : Pure a → Pure b → Pure (.prefixOp op [a, b])

/-- the run-time environment agrees with the checker's scope: every name the checker can resolve has a
    value of the recorded type (locals first, then globals, as both look-ups do) -/
def EnvOk (env : Env) (sc : Scope) (loc : Locals) (g : GState) : Prop :=
  ∀ x b, findVar sc env.globals x = some b →
    ∃ v, (match lookup? loc x with | some v => some v | none => lookup? g.globals x) = some v ∧ HasTy v b.ty

/-- what an evaluation may end in without violating the property (`g' = g`: the fragment has no effects) -/
def Safe (τ : Ty) (g : GState) : Except (Fault × GState) (SVal × GState) → Prop
  | .ok (v, g') => HasTy v τ ∧ g' = g
  | .error (f, _) => f = .fuel ∨ f = .divZero

@[elab_as_elim]
theorem Safe.elim {τ : Ty} {g : GState} {r : Except (Fault × GState) (SVal × GState)}
    {motive : Except (Fault × GState) (SVal × GState) → Prop} (h : Safe τ g r)
    (ok : ∀ v, HasTy v τ → motive (.ok (v, g))) (err : ∀ f g', f = .fuel ∨ f = .divZero → motive (.error (f, g'))) : motive r :=
  match r, h with
  | .ok (v, _), ⟨hv, rfl⟩ => ok v hv
  | .error (f, g'), h => err f g' h

theorem binArith_typed (cfg : Cfg) {op : TT} {ta tb τ : Ty} {va vb : SVal} (hr : BinRule op ta tb τ)
    (ha : HasTy va ta) (hb : HasTy vb tb) (hs : op ≠ .T_AND ∧ op ≠ .T_OR) :
    (∃ v, binArith cfg op va vb = .ok v ∧ HasTy v τ) ∨ binArith cfg op va vb = .error .divZero := by
  cases hr <;> cases ha <;> cases hb
  case and | or => simp at hs
  case div x y | mod x y =>
    unfold binArith
    by_cases hy : y = 0
    · cases hc : cfg.divZeroIsZero <;> simp [hy]
      exact .int _
    · simp [hy]
      exact .int _
  all_goals exact .inl ⟨_, rfl, by constructor⟩

theorem tc_sound_expr (cfg : Cfg) (p : Program) (env : Env) (sc : Scope) (loc : Locals) (g : GState) (hok : EnvOk env sc loc g) :
    ∀ (fuel : Nat) (e : Expr) (τ : Ty), Pure e → tcExpr env sc e = some τ → Safe τ g (evalExpr cfg p fuel loc g e) := by
  intro fuel
  induction fuel with
  | zero => intro e τ _ _; exact .inl rfl
  | succ n ih =>
    intro e τ hp ht
    cases hp with
    | num v => cases ht; exact ⟨.int _, rfl⟩
    | bool b => cases ht; exact ⟨.bool _, rfl⟩
    | str s => cases ht; exact ⟨.str _, rfl⟩
    | ident x =>
      obtain ⟨b, hf, rfl⟩ := tcExpr_ident ht
      obtain ⟨v, hv, hty⟩ := hok x b hf
      rw [evalExpr]
      split at hv
      · cases hv; simp only [*]; exact ⟨hty, rfl⟩
      · simp only [*]; exact ⟨hty, rfl⟩
    | un op a ha =>
      rw [evalExpr]
      rcases tcExpr_un ht with ⟨rfl, hta, rfl⟩ | ⟨rfl, hta, rfl⟩
      · refine (ih a _ ha hta).elim (fun v hv => ?_) fun _ _ h => h
        cases hv; exact ⟨.int _, rfl⟩
      · refine (ih a _ ha hta).elim (fun v hv => ?_) fun _ _ h => h
        cases hv; exact ⟨.bool _, rfl⟩
    | bin op a b ha hb =>
      obtain ⟨ta, tb, hta, htb, hr⟩ := tcExpr_bin ht
      rw [evalExpr]
      refine (ih a ta ha hta).elim (fun va hva => ?_) fun _ _ h => h
      have right := ih b tb hb htb
      by_cases hand : op = .T_AND
      · -- `and`: two booleans; the right one is evaluated only after `true`
        subst hand; cases hr; cases hva with | bool x => ?_
        cases x
        · exact ⟨.bool _, rfl⟩
        · simp only [beq_self_eq_true, if_true]
          refine right.elim (fun vb hvb => ?_) fun _ _ h => h
          cases hvb; exact ⟨.bool _, rfl⟩
      by_cases hor : op = .T_OR
      · subst hor; cases hr; cases hva with | bool x => ?_
        cases x
        · simp only [show (TT.T_OR == TT.T_AND) = false from rfl, Bool.false_eq_true, beq_self_eq_true, if_true, if_false]
          refine right.elim (fun vb hvb => ?_) fun _ _ h => h
          cases hvb; exact ⟨.bool _, rfl⟩
        · exact ⟨.bool _, rfl⟩
      -- a strict operator: both operands, then `binArith`
      simp only [beq_eq_false_iff_ne.mpr hand, beq_eq_false_iff_ne.mpr hor, Bool.false_eq_true, if_false]
      refine right.elim (fun vb hvb => ?_) fun _ _ h => h
      rcases binArith_typed cfg hr hva hvb ⟨hand, hor⟩ with ⟨v, hv, hty⟩ | hv <;> simp only [hv]
      · exact ⟨hty, rfl⟩
      · exact .inr rfl

/-- a binding of the checker's scope and the run-time entry at the same position -/
def Rel (b : Binding) (e : String × SVal) : Prop := b.name = e.1 ∧ HasTy e.2 b.ty

/-- the run-time locals mirror the checker's scope, innermost first -/
inductive Agree : List Binding → List (String × SVal) → Prop
  | nil : Agree [] []
  | cons {b : Binding} {e : String × SVal} {sc : List Binding} {loc : List (String × SVal)} :
      Rel b e → Agree sc loc → Agree (b :: sc) (e :: loc)

theorem agree_length_eq {sc : List Binding} {loc : List (String × SVal)} (h : Agree sc loc) : sc.length = loc.length := by
  induction h with
  | nil => rfl
  | cons _ _ ih => simp [ih]

theorem agree_find {bs : List Binding} {l : List (String × SVal)} (h : Agree bs l) (x : String) :
    (∀ b, bs.find? (·.name == x) = some b → ∃ v, lookup? l x = some v ∧ HasTy v b.ty) ∧
    (bs.find? (·.name == x) = none → lookup? l x = none) := by
  induction h with
  | nil => exact ⟨fun _ => nofun, fun _ => rfl⟩
  | @cons b e bs' l' hbe _ ih =>
    obtain ⟨y, w⟩ := e
    obtain ⟨hn, ht⟩ := hbe
    cases hn
    simp only [List.find?_cons, lookup?]
    cases b.name == x
    · exact ih
    · exact ⟨fun b' hb' => by cases hb'; exact ⟨w, rfl, ht⟩, fun h' => nomatch h'⟩

theorem agree_update {bs : List Binding} {l : List (String × SVal)} (h : Agree bs l) (x : String) (v : SVal) :
    (∀ b, bs.find? (·.name == x) = some b → HasTy v b.ty → ∃ l', update l x v = some l' ∧ Agree bs l') ∧
    (bs.find? (·.name == x) = none → update l x v = none) := by
  induction h with
  | nil => exact ⟨fun _ => nofun, fun _ => rfl⟩
  | @cons b e bs' l' hbe htl ih =>
    obtain ⟨y, w⟩ := e
    obtain ⟨hn, ht⟩ := hbe
    cases hn
    simp only [List.find?_cons, update]
    cases b.name == x
    · refine ⟨fun b' hb' hv => ?_, fun h' => by simp [ih.2 h']⟩
      obtain ⟨l2, h1, h2⟩ := ih.1 b' hb' hv
      exact ⟨(b.name, w) :: l2, by simp [h1], .cons ⟨rfl, ht⟩ h2⟩
    · exact ⟨fun b' hb' hv => by cases hb'; exact ⟨_, rfl, .cons ⟨rfl, hv⟩ htl⟩, fun h' => nomatch h'⟩

/-- globals mirror the checker's global table -/
def GA (env : Env) (g : GState) : Prop := Agree env.globals g.globals

theorem envOk_of_agree {env : Env} {sc : Scope} {loc : Locals} {g : GState} (ha : Agree sc loc) (hg : GA env g) :
    EnvOk env sc loc g := by
  intro x b hf
  rcases findVar_some hf with hs | ⟨hs, hgl⟩
  · obtain ⟨v, hv, ht⟩ := (agree_find ha x).1 b hs
    exact ⟨v, by rw [hv], ht⟩
  · obtain ⟨v, hv, ht⟩ := (agree_find hg x).1 b hgl
    exact ⟨v, by rw [(agree_find ha x).2 hs, hv], ht⟩

/-- the statement fragment -/
inductive FragS : Stmt → Prop
  | letS (x : String) (m : Bool) (ty : Ty) (e : Expr) : Pure e → FragS (.letS x m ty e)
  | setS (x : String) (e : Expr) : Pure e → FragS (.setS x e)
  | if1 (c : Expr) (t : List Stmt) (b : Bool) : Pure c → (∀ s ∈ t, FragS s) → FragS (.ifS c t none b)
  | if2 (c : Expr) (t eb : List Stmt) (b : Bool) : Pure c → (∀ s ∈ t, FragS s) → (∀ s ∈ eb, FragS s) → FragS (.ifS c t (some eb) b)
  | whileS (c : Expr) (b : List Stmt) : Pure c → (∀ s ∈ b, FragS s) → FragS (.whileS c b)
  | ret0 : FragS (.ret none)
  | ret1 (e : Expr) : Pure e → FragS (.ret (some e))
  | brk : FragS .breakS
  | cont : FragS .continueS
  | print (ln : Bool) (e : Expr) : Pure e → FragS (.printS ln e)
  | assert (e : Expr) : Pure e → FragS (.assertS e)
  | expr (e : Expr) : Pure e → FragS (.exprS e)
  | block (ss : List Stmt) : (∀ s ∈ ss, FragS s) → FragS (.block ss)

/-- how a statement may leave: `break` / `continue` only inside a loop, `return` only with a value of the
    function's return type (or nothing, in a void function) -/
def FlowOk (ret : Ty) (inLoop : Bool) : Flow → Prop
  | .next => True
  | .brk => inLoop = true
  | .cont => inLoop = true
  | .ret v => (v = .void ∧ tyEq ret .void = true) ∨ HasTy v ret

/-- the faults the property permits: budget, division by zero (native configuration), failed assertion -/
def GoodErr (f : Fault) : Prop := f = .fuel ∨ f = .divZero ∨ f = .assertFail

/-- outcome of a statement, block, sequence or loop: locals that satisfy `P` (agreement with the checker's scope
    afterwards), globals that still mirror the table and a permitted way of leaving, or a permitted fault -/
def ResOk (env : Env) (ret : Ty) (inLoop : Bool) (P : Locals → Prop) : Except (Fault × GState) (Flow × Locals × GState) → Prop
  | .ok (fl, loc', g') => P loc' ∧ GA env g' ∧ FlowOk ret inLoop fl
  | .error (f, _) => GoodErr f

/-- `tcStmt`'s initialiser test on `let` (`env`, `sc` auto-bound) does not take its `[]` branch on the fragment -/
theorem pure_not_emptyArr {e : Expr} (h : Pure e) : ∀ ty : Ty,
    (match e with
      | .arrayLit [] => (match ty with | .arr _ => true | _ => false)
      | _ => (match tcExpr env sc e with | some te => tyEq te ty | none => false))
    = (match tcExpr env sc e with | some te => tyEq te ty | none => false) := by
  intro ty; cases h <;> rfl

theorem flowOk_loop {ret : Ty} {inLoop : Bool} {fl : Flow} (h : FlowOk ret true fl) (h1 : fl ≠ .brk) (h2 : fl ≠ .cont) :
    FlowOk ret inLoop fl := by
  cases fl <;> simp_all [FlowOk]

theorem agree_drop {ext sc : Scope} {loc loc' : Locals} (h : Agree (ext ++ sc) loc') (ha : Agree sc loc) :
    Agree sc (loc'.drop (loc'.length - loc.length)) := by
  induction ext generalizing loc' with
  | nil => rw [← agree_length_eq h, ← agree_length_eq ha, List.nil_append, Nat.sub_self]; exact h
  | cons b r ih =>
    cases h with
    | @cons _ _ _ l _ htl =>
      have h1 : (r ++ sc).length = l.length := agree_length_eq htl
      have h2 := agree_length_eq ha
      rw [List.length_append] at h1
      rw [List.length_cons, show l.length + 1 - loc.length = (l.length - loc.length) + 1 by omega]
      exact ih htl

theorem goodErr_of_safe {f : Fault} (h : f = .fuel ∨ f = .divZero) : GoodErr f := h.imp_right .inl

@[elab_as_elim]
theorem ResOk.elim {env : Env} {ret : Ty} {inLoop : Bool} {P : Locals → Prop} {r : Except (Fault × GState) (Flow × Locals × GState)}
    {motive : Except (Fault × GState) (Flow × Locals × GState) → Prop} (h : ResOk env ret inLoop P r)
    (ok : ∀ fl loc' g', P loc' → GA env g' → FlowOk ret inLoop fl → motive (.ok (fl, loc', g')))
    (err : ∀ f g', GoodErr f → motive (.error (f, g'))) : motive r :=
  match r, h with
  | .ok (fl, loc', g'), ⟨hp, hg, hfl⟩ => ok fl loc' g' hp hg hfl
  | .error (f, g'), h => err f g' h

/-- **type soundness of the while-language over the operator fragment**: a statement the checker accepts, executed in any state
    that mirrors the checker's scope, never ends in a type error, an undefined variable or function, an
    out-of-bounds or unsupported operation; it ends in a state that mirrors the checker's resulting scope, leaves
    by `break` / `continue` only inside a loop and by `return` only with a value of the declared return type -/
theorem tc_sound_all (cfg : Cfg) (p : Program) (env : Env) (ret : Ty) : ∀ fuel : Nat,
    (∀ (s : Stmt) (inLoop : Bool) (sc sc' : Scope) (loc : Locals) (g : GState), FragS s →
      tcStmt env ret inLoop sc s = some sc' → Agree sc loc → GA env g →
      ResOk env ret inLoop (fun l => Agree sc' l) (execStmt cfg p fuel loc g s)) ∧
    (∀ (ss : List Stmt) (inLoop : Bool) (sc : Scope) (loc : Locals) (g : GState), (∀ s ∈ ss, FragS s) →
      tcBlock env ret inLoop sc ss = true → Agree sc loc → GA env g →
      ResOk env ret inLoop (fun l => Agree sc l) (execBlock cfg p fuel loc g ss)) ∧
    (∀ (ss : List Stmt) (inLoop : Bool) (sc : Scope) (loc : Locals) (g : GState), (∀ s ∈ ss, FragS s) →
      tcBlock env ret inLoop sc ss = true → Agree sc loc → GA env g →
      ResOk env ret inLoop (fun l => ∃ ext, Agree (ext ++ sc) l) (execStmts cfg p fuel loc g ss)) ∧
    (∀ (c : Expr) (b : List Stmt) (inLoop : Bool) (sc : Scope) (loc : Locals) (g : GState), Pure c → (∀ s ∈ b, FragS s) →
      tcExpr env sc c = some .bool → tcBlock env ret true sc b = true → Agree sc loc → GA env g →
      ResOk env ret inLoop (fun l => Agree sc l) (execWhile cfg p fuel loc g c b)) := by
  intro fuel
  induction fuel with
  | zero => refine ⟨?_, ?_, ?_, ?_⟩ <;> intros <;> exact .inl rfl
  | succ n ih =>
    obtain ⟨ih1, ih2, ih3, ih4⟩ := ih
    have ev {sc : Scope} {loc : Locals} {g : GState} {e : Expr} {τ : Ty} (ha : Agree sc loc) (hg : GA env g) (hp : Pure e)
        (hte : tcExpr env sc e = some τ) : Safe τ g (evalExpr cfg p n loc g e) :=
      tc_sound_expr cfg p env sc loc g (envOk_of_agree ha hg) n e τ hp hte
    refine ⟨?_, ?_, ?_, ?_⟩
    · intro s inLoop sc sc' loc g hf ht ha hg
      cases hf with
      | letS x m ty e hp =>
        obtain ⟨rfl, te, hte, hty⟩ := tcStmt_let (by rintro rfl; cases hp) ht
        rw [execStmt]
        refine (ev ha hg hp hte).elim (fun v hv => ?_) fun _ _ => goodErr_of_safe
        exact ⟨.cons ⟨rfl, eq_of_tyEq hty ▸ hv⟩ ha, hg, trivial⟩
      | setS x e hp =>
        obtain ⟨rfl, b, te, hfv, hte, -, hty⟩ := tcStmt_set ht
        rw [execStmt]
        refine (ev ha hg hp hte).elim (fun v hv => ?_) fun _ _ => goodErr_of_safe
        have hvb : HasTy v b.ty := eq_of_tyEq hty ▸ hv
        -- the binding is a local or, failing that, a global: `update` finds it in the same place
        rcases findVar_some hfv with hs | ⟨hs, hgl⟩
        · obtain ⟨l2, h1, h2⟩ := (agree_update ha x v).1 b hs hvb
          simp only [h1]; exact ⟨h2, hg, trivial⟩
        · obtain ⟨gl, h1, h2⟩ := (agree_update hg x v).1 b hgl hvb
          simp only [(agree_update ha x v).2 hs, h1]; exact ⟨ha, h2, trivial⟩
      | if1 c t bf hp hft =>
        obtain ⟨rfl, hte, hb, -⟩ := tcStmt_if ht
        rw [execStmt]
        refine (ev ha hg hp hte).elim (fun v hv => ?_) fun _ _ => goodErr_of_safe
        cases hv with | bool bv => ?_
        cases bv
        · exact ⟨ha, hg, trivial⟩
        · exact ih2 t inLoop _ loc g hft hb ha hg
      | if2 c t eb bf hp hft hfe =>
        obtain ⟨rfl, hte, hb, hb2⟩ := tcStmt_if ht
        rw [execStmt]
        refine (ev ha hg hp hte).elim (fun v hv => ?_) fun _ _ => goodErr_of_safe
        cases hv with | bool bv => ?_
        cases bv
        · exact ih2 eb inLoop _ loc g hfe hb2 ha hg
        · exact ih2 t inLoop _ loc g hft hb ha hg
      | whileS c b hp hfb =>
        obtain ⟨rfl, hte, hb⟩ := tcStmt_while ht
        rw [execStmt]
        exact ih4 c b inLoop _ loc g hp hfb hte hb ha hg
      | ret0 =>
        obtain ⟨rfl, hv⟩ := tcStmt_ret_none ht
        exact ⟨ha, hg, .inl ⟨rfl, hv⟩⟩
      | ret1 e hp =>
        obtain ⟨rfl, te, hte, hty⟩ := tcStmt_ret_some ht
        rw [execStmt]
        refine (ev ha hg hp hte).elim (fun v hv => ?_) fun _ _ => goodErr_of_safe
        exact ⟨ha, hg, .inr (eq_of_tyEq hty ▸ hv)⟩
      | brk => obtain ⟨rfl, hl⟩ := tcStmt_break ht; exact ⟨ha, hg, hl⟩
      | cont => obtain ⟨rfl, hl⟩ := tcStmt_continue ht; exact ⟨ha, hg, hl⟩
      | print ln e hp =>
        obtain ⟨rfl, te, hte⟩ := tcStmt_print ht
        rw [execStmt]
        exact (ev ha hg hp hte).elim (fun _ _ => ⟨ha, hg, trivial⟩) fun _ _ => goodErr_of_safe
      | assert e hp =>
        obtain ⟨rfl, hte⟩ := tcStmt_assert ht
        rw [execStmt]
        refine (ev ha hg hp hte).elim (fun v hv => ?_) fun _ _ => goodErr_of_safe
        cases hv with | bool bv => ?_
        cases bv
        · exact .inr (.inr rfl)
        · exact ⟨ha, hg, trivial⟩
      | expr e hp =>
        obtain ⟨rfl, te, hte⟩ := tcStmt_expr ht
        rw [execStmt]
        exact (ev ha hg hp hte).elim (fun _ _ => ⟨ha, hg, trivial⟩) fun _ _ => goodErr_of_safe
      | block ss hfs =>
        obtain ⟨rfl, hb⟩ := tcStmt_block ht
        rw [execStmt]
        exact ih2 ss inLoop _ loc g hfs hb ha hg
    · intro ss inLoop sc loc g hfs hb ha hg
      rw [execBlock]
      refine (ih3 ss inLoop sc loc g hfs hb ha hg).elim (fun fl loc' g1 ⟨ext, hext⟩ hg1 hfl => ?_) fun _ _ h => h
      exact ⟨agree_drop hext ha, hg1, hfl⟩
    · -- a sequence: the scope after the first statement is an extension `e0 ++ sc`
      intro ss inLoop sc loc g hfs hb ha hg
      cases ss with
      | nil => exact ⟨⟨[], ha⟩, hg, trivial⟩
      | cons s r =>
        obtain ⟨sc1, hts, hb⟩ := tcBlock_cons hb
        have hfs0 : FragS s := hfs s (by simp)
        have hfr : ∀ x ∈ r, FragS x := fun x hx => hfs x (by simp [hx])
        obtain ⟨e0, rfl⟩ : ∃ e0, sc1 = e0 ++ sc := by
          rcases tcStmt_ext hts with rfl | ⟨b, rfl⟩
          · exact ⟨[], rfl⟩
          · exact ⟨[b], rfl⟩
        rw [execStmts]
        refine (ih1 s inLoop sc _ loc g hfs0 hts ha hg).elim (fun fl loc1 g1 ha1 hg1 hfl => ?_) fun _ _ h => h
        cases fl with
        | next =>
          simp only
          refine (ih3 r inLoop _ loc1 g1 hfr hb ha1 hg1).elim (fun fl2 loc2 g2 ⟨ext, hext⟩ hg2 hfl2 => ?_) fun _ _ h => h
          exact ⟨⟨ext ++ e0, by rwa [List.append_assoc]⟩, hg2, hfl2⟩
        | _ => exact ⟨⟨e0, ha1⟩, hg1, hfl⟩
    · intro c b inLoop sc loc g hp hfb hte hb ha hg
      rw [execWhile]
      refine (ev ha hg hp hte).elim (fun v hv => ?_) fun _ _ => goodErr_of_safe
      cases hv with | bool bv => ?_
      cases bv
      · exact ⟨ha, hg, trivial⟩
      · simp only
        refine (ih2 b true sc loc g hfb hb ha hg).elim (fun fl loc1 g2 ha1 hg2 hfl => ?_) fun _ _ h => h
        cases fl with
        | brk => exact ⟨ha1, hg2, trivial⟩
        | ret v => exact ⟨ha1, hg2, hfl⟩
        | _ => exact ih4 c b inLoop sc loc1 g2 hp hfb hte hb ha1 hg2

/-- **a function body the checker accepts never gets stuck**: executed with arguments of the declared types (any
    state that mirrors the parameter scope and the global table), for any evaluation budget, the body of the
    while-language ends by falling through or by `return` with a value of the declared return type, or in one of the
    permitted faults (budget, division by zero in the native configuration, failed assertion) -/
theorem tc_sound_body (cfg : Cfg) (p : Program) (env : Env) (ret : Ty) (sc : Scope) (body : List Stmt)
    (hf : ∀ s ∈ body, FragS s) (ht : tcBlock env ret false sc body = true)
    (loc : Locals) (g : GState) (ha : Agree sc loc) (hg : GA env g) (fuel : Nat) :
    ResOk env ret false (fun l => Agree sc l) (execBlock cfg p fuel loc g body) :=
  (tc_sound_all cfg p env ret fuel).2.1 body false sc loc g hf ht ha hg

/-- ... in particular: no type error, no undefined variable or function, no out-of-bounds or unsupported operation,
    no `break` / `continue` escaping the function -/
theorem never_stuck (cfg : Cfg) (p : Program) (env : Env) (ret : Ty) (sc : Scope) (body : List Stmt)
    (hf : ∀ s ∈ body, FragS s) (ht : tcBlock env ret false sc body = true)
    (loc : Locals) (g : GState) (ha : Agree sc loc) (hg : GA env g) (fuel : Nat) :
    (∀ f g', execBlock cfg p fuel loc g body = .error (f, g') →
        f ≠ .typeError ∧ f ≠ .undefinedVar ∧ f ≠ .undefinedFn ∧ f ≠ .oob ∧ f ≠ .unsupported) ∧
    (∀ fl loc' g', execBlock cfg p fuel loc g body = .ok (fl, loc', g') → fl ≠ .brk ∧ fl ≠ .cont) := by
  have h := tc_sound_body cfg p env ret sc body hf ht loc g ha hg fuel
  constructor
  · intro f g' he
    rw [he] at h
    rcases h with h | h | h <;> subst h <;> simp
  · intro fl loc' g' he
    rw [he] at h
    obtain ⟨_, _, hfl⟩ := h
    cases fl <;> simp_all [FlowOk]

/- non-vacuity: `let mut i: int = 0; while (< i 3) { set i (+ i 1); if (== i 2) { continue } }; return i` is in the
   fragment, accepted by the checker at return type int, and the empty state mirrors the empty scope -/
def loopBody : List Stmt :=
  [.letS "i" true .int (.num 0),
   .whileS (.prefixOp .T_LT [.ident "i", .num 3])
     [.setS "i" (.prefixOp .T_PLUS [.ident "i", .num 1]),
      .ifS (.prefixOp .T_EQ [.ident "i", .num 2]) [.continueS] none false],
   .ret (some (.ident "i"))]

example : tcBlock {} .int false [] loopBody = true := by decide
example : ∀ s ∈ loopBody, FragS s := by
  intro s hs
  simp only [loopBody, List.mem_cons, List.mem_nil_iff, or_false] at hs
  rcases hs with rfl | rfl | rfl
  · exact .letS _ _ _ _ (.num 0)
  · refine .whileS _ _ (.bin _ _ _ (.ident _) (.num _)) ?_
    intro s hs
    simp only [List.mem_cons, List.mem_nil_iff, or_false] at hs
    rcases hs with rfl | rfl
    · exact .setS _ _ (.bin _ _ _ (.ident _) (.num _))
    · refine .if1 _ _ _ (.bin _ _ _ (.ident _) (.num _)) ?_
      intro s hs; simp at hs; subst hs; exact .cont
  · exact .ret1 _ (.ident _)
example : Agree [] [] ∧ GA {} {} := ⟨.nil, .nil⟩

end NanoVerif.C04
