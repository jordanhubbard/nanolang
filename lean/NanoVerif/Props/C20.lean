/-
C20 — the native runtime's containers behave as sequences and its GC bookkeeping stays
consistent (property theorems and the lemmas that serve them alone).  Sanitizer-cleanliness of arbitrary generated programs is
not a theorem; it is searched for by the check.
-/
import NanoVerif.Model.Runtime
import NanoVerif.Lemmas.ListAux
namespace NanoVerif.C20

theorem new_refines : DynArr.new.Inv ∧ DynArr.new.abs = [] := by
  unfold DynArr.Inv DynArr.new DynArr.abs dynInitialCapacity; simp

theorem abs_length {a : DynArr} (h : a.Inv) : a.abs.length = a.len :=
  List.length_take_of_le (h.2.1 ▸ h.1)

theorem getD_eq_abs {a : DynArr} (h : a.Inv) {k : Nat} (hk : k < a.len) :
    some (a.data.getD k 0) = a.abs[k]? := by
  have hd : k < a.data.length := h.2.1 ▸ Nat.lt_of_lt_of_le hk h.1
  rw [DynArr.abs, List.getElem?_take_of_lt hk, List.getD_eq_getElem?_getD, List.getElem?_eq_getElem hd]
  rfl

theorem reserve_refines (a : DynArr) (n : Nat) (h : a.Inv) :
    (a.reserve n).Inv ∧ (a.reserve n).abs = a.abs ∧ n ≤ (a.reserve n).cap := by
  obtain ⟨h1, h2, h3⟩ := h
  unfold DynArr.reserve
  split
  · exact ⟨⟨h1, h2, h3⟩, rfl, ‹_›⟩
  · refine ⟨⟨?_, ?_, ?_⟩, List.take_append_of_le_length (h2 ▸ h1), Nat.le_refl n⟩
    · show a.len ≤ n; omega
    · show (a.data ++ List.replicate (n - a.cap) 0).length = n
      rw [List.length_append, List.length_replicate]; omega
    · show 0 < n; omega

/-- growing is reserving twice the capacity -/
theorem grow_refines (a : DynArr) (h : a.Inv) : a.grow.Inv ∧ a.grow.abs = a.abs ∧ a.len < a.grow.cap := by
  have hc : ¬ a.cap * dynGrowth ≤ a.cap := by have := h.2.2; simp only [dynGrowth]; omega
  have e : a.reserve (a.cap * dynGrowth) = a.grow := by simp only [DynArr.reserve, hc, if_false]; rfl
  obtain ⟨hi, ha, hn⟩ := reserve_refines a (a.cap * dynGrowth) h
  rw [e] at hi ha hn
  exact ⟨hi, ha, by have := h.1; simp only [dynGrowth] at hn hc; omega⟩

/-- push (with growth when full) appends one element and keeps the representation invariant -/
theorem push_refines (a : DynArr) (v : Int) (h : a.Inv) : (a.push v).Inv ∧ (a.push v).abs = a.abs ++ [v] := by
  unfold DynArr.push
  generalize hb : (if a.len ≥ a.cap then a.grow else a) = b
  obtain ⟨⟨-, g2, g3⟩, gabs, glt⟩ : b.Inv ∧ b.abs = a.abs ∧ b.len < b.cap := by
    subst hb
    split
    · exact grow_refines a h
    · exact ⟨h, rfl, by omega⟩
  refine ⟨⟨glt, by simp [g2], g3⟩, ?_⟩
  rw [← gabs]
  exact take_set_succ _ _ _ (by omega)

/-- pop removes and returns the last element; on an empty array it reports failure and changes nothing -/
theorem pop_refines (a : DynArr) (h : a.Inv) :
    (a.len = 0 → a.pop = (a, none)) ∧
    (0 < a.len → (a.pop.1).Inv ∧ (a.pop.1).abs = a.abs.dropLast ∧ a.pop.2 = a.abs.getLast?) := by
  refine ⟨fun h0 => if_pos h0, fun hpos => ?_⟩
  rw [DynArr.pop, if_neg (by omega), List.dropLast_eq_take, List.getLast?_eq_getElem?, abs_length h]
  refine ⟨⟨?_, h.2⟩, ?_, getD_eq_abs h (by omega)⟩
  · show a.len - 1 ≤ a.cap; have := h.1; omega
  · show a.data.take (a.len - 1) = (a.data.take a.len).take (a.len - 1)
    rw [List.take_take, Nat.min_eq_left (Nat.sub_le ..)]

/-- get: exactly the C assertion as precondition, and then the element of the abstract sequence -/
theorem get_refines (a : DynArr) (i : Int) (h : a.Inv) :
    a.get i = (if 0 ≤ i ∧ i < a.len then a.abs[i.toNat]? else none) := by
  unfold DynArr.get
  split
  · exact getD_eq_abs h (by omega)
  · rfl

theorem set_refines (a : DynArr) (i v : Int) (h : a.Inv) (hr : 0 ≤ i ∧ i < a.len) :
    ∃ b, a.set i v = some b ∧ b.Inv ∧ b.abs = a.abs.set i.toNat v := by
  obtain ⟨h1, h2, h3⟩ := h
  exact ⟨_, if_pos hr, ⟨h1, by simp [h2], h3⟩, List.take_set⟩

theorem removeAt_refines (a : DynArr) (i : Int) (h : a.Inv) (hr : 0 ≤ i ∧ i < a.len) :
    ∃ b, a.removeAt i = some b ∧ b.Inv ∧ b.abs = a.abs.eraseIdx i.toNat := by
  obtain ⟨h1, h2, h3⟩ := h
  -- the `data` of `a.removeAt i` is `memmove a.data i.toNat a.len` written out (the model cannot name it)
  obtain ⟨hlen, habs⟩ := memmove_spec a.data (k := i.toNat) (n := a.len) (by omega) (by omega)
  refine ⟨_, if_pos hr, ⟨?_, hlen.trans h2, h3⟩, habs⟩
  show a.len - 1 ≤ a.cap; omega

theorem clear_refines (a : DynArr) (h : a.Inv) : a.clear.Inv ∧ a.clear.abs = [] :=
  ⟨⟨Nat.zero_le _, h.2⟩, rfl⟩

theorem clone_refines (a : DynArr) (h : a.Inv) : a.clone.Inv ∧ a.clone.abs = a.abs := by
  obtain ⟨h1, h2, h3⟩ := h
  obtain ⟨⟨r1, r2, r3⟩, _, rcap⟩ := reserve_refines DynArr.new a.len new_refines.1
  unfold DynArr.clone
  generalize DynArr.new.reserve a.len = b at *
  refine ⟨⟨rcap, ?_, r3⟩, List.take_left' (List.length_take_of_le (by omega))⟩
  show (a.data.take a.len ++ b.data.drop a.len).length = b.cap
  rw [List.length_append, List.length_take_of_le (by omega), List.length_drop]; omega

theorem gc_init_inv : ({} : GcState).Inv := by
  unfold GcState.Inv; simp

theorem gc_alloc_inv (g : GcState) (h : g.Inv) : g.alloc.1.Inv ∧ g.alloc.2 ∉ g.objects.map (·.1) := by
  obtain ⟨h1, h2, h3, h4, h5⟩ := h
  have hfresh : g.nextId ∉ g.objects.map (·.1) := by
    intro hm
    obtain ⟨o, ho, he⟩ := List.mem_map.mp hm
    have := (h5 o ho).2
    omega
  refine ⟨⟨?_, ?_, ?_, ?_, ?_⟩, hfresh⟩
  · simp only [GcState.alloc, List.map_cons, List.nodup_cons]; exact ⟨hfresh, h1⟩
  · simp [GcState.alloc, h2]
  · intro p; simp only [GcState.alloc, List.mem_cons, List.map_cons]; rw [h3 p]
  · simp only [GcState.alloc, List.nodup_cons]; exact ⟨fun hm => hfresh ((h3 _).mp hm), h4⟩
  · intro o ho
    simp only [GcState.alloc, List.mem_cons] at ho
    rcases ho with rfl | ho
    · simp [GcState.alloc]
    · have := h5 o ho; simp only [GcState.alloc]; omega

theorem upd_inv (g : GcState) (p : Nat) (f : Nat → Nat) (h : g.Inv)
    (hf : ∀ o ∈ g.objects, o.1 = p → 1 ≤ f o.2) :
    ({ g with objects := g.objects.map fun o : Nat × Nat => if o.1 == p then (o.1, f o.2) else o }).Inv := by
  obtain ⟨h1, h2, h3, h4, h5⟩ := h
  have hkeys : (g.objects.map fun o => if o.1 == p then (o.1, f o.2) else o).map (·.1) = g.objects.map (·.1) := by
    rw [List.map_map]; exact List.map_congr_left fun o _ => by simp only [Function.comp]; split <;> rfl
  unfold GcState.Inv
  simp only [List.length_map, hkeys]
  refine ⟨h1, h2, h3, h4, fun o ho => ?_⟩
  obtain ⟨r, hr, rfl⟩ := List.mem_map.mp ho
  split
  · exact ⟨hf r hr (by simpa using ‹(r.1 == p) = true›), (h5 r hr).2⟩
  · exact h5 r hr

theorem gc_retain_inv (g : GcState) (p : Nat) (h : g.Inv) : (g.retain p).Inv :=
  upd_inv g p (· + 1) h fun _ _ _ => Nat.le_add_left ..

/-- release keeps the bookkeeping consistent in every branch (unmanaged pointer, count reaching zero,
    count decremented) -/
theorem gc_release_inv (g : GcState) (p : Nat) (h : g.Inv) : (g.release p).Inv := by
  have ⟨h1, h2, h3, h4, h5⟩ := h
  unfold GcState.release
  split
  · exact h
  · split
    · exact h
    · rename_i q rc hf
      have hm := List.mem_of_find?_eq_some hf
      have hq : q = p := by simpa using List.find?_some hf
      subst hq
      split
      · -- freed: on the keys, the filter is `erase`, which removes exactly one of distinct keys
        have hkeys : (g.objects.filter (·.1 != q)).map (·.1) = (g.objects.map (·.1)).erase q := by
          rw [h1.erase_eq_filter, List.filter_map]; rfl
        have hq : q ∈ g.objects.map (·.1) := List.mem_map_of_mem (f := (·.1)) hm
        refine ⟨hkeys ▸ h1.erase q, ?_, fun x => ?_, h4.filter _, fun o ho => h5 o (List.mem_filter.mp ho).1⟩
        · show g.numObjects - 1 = _
          rw [← List.length_map (f := (·.1)), hkeys, List.length_erase_of_mem hq, List.length_map, h2]
        · show x ∈ g.hashed.filter (· != q) ↔ _
          rw [hkeys, h1.mem_erase_iff, List.mem_filter, h3 x]; simp [and_comm]
      · -- the entry decremented is the one found, whose count exceeds 1
        refine upd_inv g q (· - 1) h fun r hr hk => ?_
        cases eq_of_key_eq h1 hr hm hk
        show 1 ≤ rc - 1; omega

example : ((DynArr.new.push 5).push 7).abs = [5, 7] := by decide
example : (((List.range 9).foldl (fun a i => a.push i) DynArr.new)).cap = 16 := by decide
example : ((({} : GcState).alloc.1.alloc.1.release 0).numObjects) = 1 := by decide

end NanoVerif.C20
