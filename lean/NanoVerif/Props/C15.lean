/-
C15 — values cross the VM / co-process boundary unchanged (property theorems and the lemmas that serve
them alone).
Tags are `NanoVerif.Gen.tag_*`, regenerated from isa.h on every run.
-/
import NanoVerif.Model.Cop
namespace NanoVerif.C15

/-- the transferable values of the property: int, float, bool, string of any content and any
    length below 4 GiB, opaque handle, void, and (nested, possibly empty) arrays of these -/
def Transferable : CVal → Prop
  | .int n | .float n | .opaque n => n < 256 ^ 8
  | .bool _ | .void => True
  | .str s => s.length < 256 ^ 4
  | .arr et es => et < 256 ∧ es.length < 256 ^ 4 ∧ allT es
  | .other _ => False
where allT : List CVal → Prop
  | [] => True
  | v :: vs => Transferable v ∧ allT vs

/-- nesting depth of arrays: the decoder spends one unit of fuel per level -/
def depth : CVal → Nat
  | .arr _ es => 1 + depthL es
  | _ => 0
where depthL : List CVal → Nat
  | [] => 0
  | v :: vs => max (depth v) (depthL vs)

theorem tags_distinct : Gen.tag_void = 0 ∧ Gen.tag_int = 1 ∧ Gen.tag_float = 3 ∧ Gen.tag_bool = 4 ∧
    Gen.tag_string = 5 ∧ Gen.tag_array = 7 ∧ Gen.tag_opaque = 14 := by decide

theorem take_le8 (n : Nat) (rest : Bytes) : (leBytes 8 n ++ rest).take 8 = leBytes 8 n :=
  List.take_left' (leBytes_length 8 n)

attribute [local simp] Gen.tag_void Gen.tag_int Gen.tag_float Gen.tag_bool Gen.tag_string
  Gen.tag_array Gen.tag_opaque UInt8.toNat_ofNat'

theorem de_word (fuel n : Nat) (rest : Bytes) (h : n < 256 ^ 8) {t : Nat} {c : Nat → CVal}
    (htc : (t, c) ∈ [(Gen.tag_int, CVal.int), (Gen.tag_float, CVal.float), (Gen.tag_opaque, CVal.opaque)]) :
    copDe (fuel + 1) (UInt8.ofNat t :: leBytes 8 n ++ rest) = some (c n, (UInt8.ofNat t :: leBytes 8 n).length) := by
  simp only [List.mem_cons, Prod.mk.injEq, List.not_mem_nil, or_false] at htc
  rcases htc with ⟨rfl, rfl⟩ | ⟨rfl, rfl⟩ | ⟨rfl, rfl⟩ <;> simp [copDe, leVal_leBytes_of_lt 8 n h]

theorem de_bool (fuel : Nat) (b : Bool) (rest : Bytes) :
    copDe (fuel + 1) (UInt8.ofNat Gen.tag_bool :: (if b then 1 else 0) :: rest) = some (.bool b, 2) := by
  cases b <;> simp [copDe]

theorem de_void (fuel : Nat) (rest : Bytes) :
    copDe (fuel + 1) (UInt8.ofNat Gen.tag_void :: rest) = some (.void, 1) := by
  simp [copDe]

theorem de_str (fuel : Nat) (s rest : Bytes) (h : s.length < 256 ^ 4) :
    copDe (fuel + 1) (UInt8.ofNat Gen.tag_string :: (leBytes 4 s.length ++ s) ++ rest)
      = some (.str s, (UInt8.ofNat Gen.tag_string :: (leBytes 4 s.length ++ s)).length) := by
  simp [copDe, List.append_assoc, leVal_leBytes_of_lt 4 _ h]
  omega

theorem de_arr (fuel et : Nat) (count : Nat) (body : Bytes) (het : et < 256) (hc : count < 256 ^ 4)
    (hcb : count ≤ body.length) :
    copDe (fuel + 1) (UInt8.ofNat Gen.tag_array :: UInt8.ofNat et :: (leBytes 4 count ++ body))
      = (elemsWith (copDe fuel) count body [] 0).map fun r => (.arr et r.1, 6 + r.2) := by
  simp [copDe, leVal_leBytes_of_lt 4 _ hc, Nat.mod_eq_of_lt het, Nat.not_lt.mpr hcb]
  rw [if_neg (by omega)]
  cases elemsWith (copDe fuel) count body [] 0 <;> rfl

theorem copSer_arr {et : Nat} {es : List CVal} {room : Nat} {bs : Bytes} :
    copSer (.arr et es) room = some bs ↔
      6 ≤ room ∧ ∃ ebs, copSerList es (room - 6) = some ebs ∧
        bs = UInt8.ofNat Gen.tag_array :: UInt8.ofNat et :: (leBytes 4 es.length ++ ebs) := by
  rw [copSer]
  split
  · simp; omega
  · split <;> simp [*, eq_comm]
    omega

theorem copSerList_cons {v : CVal} {vs : List CVal} {room : Nat} {bs : Bytes} :
    copSerList (v :: vs) room = some bs ↔
      ∃ b bs', copSer v room = some b ∧ copSerList vs (room - b.length) = some bs' ∧ bs = b ++ bs' := by
  rw [copSerList]
  split
  · simp [*]
  · split <;> simp [*, eq_comm]

/-- every encoding starts with its tag byte -/
theorem ser_nonempty (v : CVal) (room : Nat) (b : Bytes) (h : copSer v room = some b) : 1 ≤ b.length := by
  cases v with
  | arr et es =>
    obtain ⟨-, ebs, -, rfl⟩ := copSer_arr.mp h
    simp
  | _ =>
    simp only [copSer, Option.ite_none_left_eq_some, Option.some.injEq] at h
    obtain ⟨-, rfl⟩ := h
    simp

/-- what the array decoder's test of the count against the bytes left (`hcb` of `de_arr`) needs -/
theorem serList_length (es : List CVal) (room : Nat) (bs : Bytes) (h : copSerList es room = some bs) :
    es.length ≤ bs.length := by
  induction es generalizing room bs with
  | nil => simp
  | cons v vs ih =>
    obtain ⟨b, bs', hb, hbs', rfl⟩ := copSerList_cons.mp h
    have := ser_nonempty v room b hb
    have := ih _ _ hbs'
    simp; omega

mutual
/-- Round trip: whatever fits the buffer decodes to exactly the value that was encoded, consuming
    exactly the bytes written, whatever follows in the buffer — given fuel above the nesting depth: the
    decoder in use runs with fuel 65 (COP_MAX_NESTING = 64) and refuses deeper nesting. -/
theorem cop_roundtrip (v : CVal) (room : Nat) (bs rest : Bytes) (fuel : Nat)
    (ht : Transferable v) (hs : copSer v room = some bs) (hf : depth v < fuel) :
    copDe fuel (bs ++ rest) = some (v, bs.length) := by
  cases fuel with
  | zero => omega
  | succ fuel =>
  cases v with
  | int n | float n | «opaque» n =>
    simp only [copSer, Option.ite_none_left_eq_some, Option.some.injEq] at hs
    obtain ⟨-, rfl⟩ := hs
    exact de_word fuel n rest ht (by simp)
  | bool b =>
    simp only [copSer, Option.ite_none_left_eq_some, Option.some.injEq] at hs
    obtain ⟨-, rfl⟩ := hs
    exact de_bool fuel b rest
  | void =>
    simp only [copSer, Option.ite_none_left_eq_some, Option.some.injEq] at hs
    obtain ⟨-, rfl⟩ := hs
    exact de_void fuel rest
  | other t => exact ht.elim
  | str s =>
    simp only [copSer, Option.ite_none_left_eq_some, Option.some.injEq] at hs
    obtain ⟨-, rfl⟩ := hs
    exact de_str fuel s rest ht
  | arr et es =>
    obtain ⟨-, ebs, hes, rfl⟩ := copSer_arr.mp hs
    obtain ⟨het, hlen, hall⟩ := ht
    have hl := cop_roundtrip_list es _ ebs rest fuel hall hes (by simp only [depth] at hf; omega) [] 0
    have := de_arr fuel et es.length (ebs ++ rest) het hlen (by
      have := serList_length es _ ebs hes; simp; omega)
    simp only [List.cons_append, List.append_assoc]
    rw [this, hl]
    simp
    omega

/-- the element loop decodes a serialised element list back, accumulating in order -/
theorem cop_roundtrip_list (es : List CVal) (room : Nat) (bs rest : Bytes) (fuel : Nat)
    (ht : Transferable.allT es) (hs : copSerList es room = some bs) (hf : depth.depthL es < fuel)
    (acc : List CVal) (used : Nat) :
    elemsWith (copDe fuel) es.length (bs ++ rest) acc used = some (acc.reverse ++ es, used + bs.length) := by
  cases es with
  | nil =>
    simp only [copSerList] at hs
    cases hs
    simp [elemsWith]
  | cons v vs =>
    obtain ⟨b, bs', hb, hbs', rfl⟩ := copSerList_cons.mp hs
    simp only [depth.depthL] at hf
    have h1 := cop_roundtrip v room b (bs' ++ rest) fuel ht.1 hb (by omega)
    simp only [List.length_cons, elemsWith, List.append_assoc, h1]
    rw [List.drop_left' rfl]
    have h2 := cop_roundtrip_list vs _ bs' rest fuel ht.2 hbs' (by omega) (v :: acc) (used + b.length)
    rw [h2]
    simp
    omega
end

example : Transferable (.arr 5 [.str [104, 105], .str [], .arr 1 [.int 7, .int (2 ^ 64 - 1)], .arr 1 []]) := by
  simp [Transferable, Transferable.allT]
example : (match copDe 4 ((copSer (.arr 5 [.str [104, 105], .arr 1 [.int 7]]) 8192).getD [] ++ [0xAA]) with
    | some (.arr 5 [.str [104, 105], .arr 1 [.int 7]], 28) => true | _ => false) = true := by decide +kernel

end NanoVerif.C15
